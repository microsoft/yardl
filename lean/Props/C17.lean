import YardlProofs.WireStream
import YardlProofs.Batch

/-!
# C17 — Stream contents do not depend on batching, and items are independent

* Writer side: the block partition chosen by the writer (one item per block, batches, any mixture)
  does not affect what a reader decodes (`blocks_irrelevant`).
* Reader side: a model of `ReadBlock` / `ReadBlocksIntoVector` with the `current_block_remaining_`
  counter carried across calls. For every mixture of single and batched reads with any positive
  capacities, the items delivered so far followed by the items still in the stream are exactly the
  items written (`any_read_schedule_is_a_prefix`), and once the end is reported everything has been
  delivered exactly once, in order (`any_read_schedule_delivers_all`).
* Item independence in the specification is by construction (`dec` is a function of the bytes);
  for the implementation (readers that reuse destination objects) it is decided by the
  correspondence run of `checks/c17.py` with shape-varying consecutive items — this is where the
  `ReadMap` defect fixed by 41fd507 was found.
-/

namespace Yardl.C17

theorem blocks_irrelevant (t : Ty) (part₁ part₂ : List Nat) (items : List Val) (f₁ f₂ : Nat) (rest : Bytes)
    (h₁ : partSum part₁ = items.length) (h₂ : partSum part₂ = items.length)
    (hf₁ : part₁.length < f₁) (hf₂ : part₂.length < f₂) (ht : allList (HasType t) items = true) :
    decBlocks t f₁ (encBlocks t part₁ items ++ rest) = some (items, rest) ∧
    decBlocks t f₂ (encBlocks t part₂ items ++ rest) = some (items, rest) :=
  ⟨decBlocks_encBlocks t part₁ items f₁ rest h₁ hf₁ ht, decBlocks_encBlocks t part₂ items f₂ rest h₂ hf₂ ht⟩

/-- an empty batch handed to the writer is no item: written before, between or after the other batches it leaves the bytes of
    the stream unchanged (in particular it does not write the `0` that ends the stream) -/
theorem empty_batch_writes_nothing (t : Ty) (before after : List Nat) (items : List Val) :
    encBlocks t (before ++ 0 :: after) items = encBlocks t (before ++ after) items := by
  induction before generalizing items with
  | nil => simp [encBlocks]
  | cons n r ih =>
    simp only [List.cons_append, encBlocks]
    split
    · exact ih items
    · rw [ih]

/-- **a batch read does not depend on what the destination vector held before**: `ReadBlocksIntoVector` handed a vector with any previous
    contents (any length up to its capacity) delivers the items, and leaves the reader in the state, of a read into an empty vector -/
theorem batch_read_ignores_previous_contents (s : BS) (cap : Nat) (dest : List Val) (hwf : s.Wf) (he : s.sawEnd = false) (hcap : 0 < cap)
    (hd : dest.length ≤ cap) : s.readBatchInto cap dest = s.readBatch cap :=
  BS.batchLoopD_eq (cap + 1) _ cap 0 dest (BS.counted s hwf).1 (by omega) (by omega) (by omega)

/-- the hypotheses are met by a reader at the start of a stream of two blocks, and the destination really is overwritten -/
example : (BS.init [2, 1] [.int 1, .int 2, .int 3]).Wf ∧
    ((BS.init [2, 1] [.int 1, .int 2, .int 3]).readBatchInto 2 [.int 9]).1.length = 2 ∧
    ((BS.init [2, 1] [.int 1, .int 2, .int 3]).readBatchInto 3 [.int 9, .int 9, .int 9]).1.length = 3 := by
  refine ⟨⟨by decide, by decide, by intro h; cases h⟩, by decide, by decide⟩

theorem any_read_schedule_is_a_prefix (ops : List BS.Op) (part : List Nat) (items : List Val)
    (hp : BS.partSum' part = items.length) (hpos : ∀ n ∈ part, 0 < n) (hok : BS.opsOk ops) :
    (BS.runOps ops (BS.init part items) []).1 ++ (BS.runOps ops (BS.init part items) []).2.items = items := by
  simpa [BS.init] using (BS.runOps_prefix ops (BS.init part items) [] (BS.init_wf part items hp hpos)).1

theorem any_read_schedule_delivers_all (ops : List BS.Op) (part : List Nat) (items : List Val)
    (hp : BS.partSum' part = items.length) (hpos : ∀ n ∈ part, 0 < n) (hok : BS.opsOk ops)
    (hend : (BS.runOps ops (BS.init part items) []).2.sawEnd = true) :
    (BS.runOps ops (BS.init part items) []).1 = items := by
  obtain ⟨h1, h2⟩ := BS.runOps_prefix ops (BS.init part items) [] (BS.init_wf part items hp hpos)
  rw [h2.items_nil hend] at h1
  simpa [BS.init] using h1

/-! Non-vacuity: 5 items written as blocks 2+3, read as batch(2), single, batch(4), single. -/
def exItems : List Val := [.int 1, .int 2, .int 3, .int 4, .int 5]
def exOps : List BS.Op := [.batch 2, .single, .batch 4, .single]
example : BS.opsOk exOps := by simp [exOps, BS.opsOk]
example : (BS.runOps exOps (BS.init [2, 3] exItems) []).2.sawEnd = true := by decide
example : BS.partSum' [2, 3] = exItems.length := by decide

end Yardl.C17
