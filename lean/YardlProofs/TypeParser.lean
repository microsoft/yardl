import YardlModel.TypeParser

/-!
  YardlProofs.TypeParser — the recursive-descent parser of the shorthand grammar reads back every canonical tree
  from its printed token sequence: `parse (pr s) = some s`.

  The induction is over the tree (`pType_pr` … `pTails_pr`), for any fuel that covers what the parser functions need for
  that tree (`needS` … `needTail`: the nesting depth as the parser sees it); `needS_le` … `needTail_le` bound the need by the
  length of the printed form, which is what `parse` supplies.
-/

namespace Yardl.TypeParser
open Yardl.Syntax

/-- what can follow a dimension: `,` or `]` -/
def dimFollow : List Tok → Bool
  | .sym c :: _ => c == ',' || c == ']'
  | _ => false

theorem pDim_prDim (d : Dim) (rest : List Tok) (hd : dimOk d = true) (hr : dimFollow rest = true) :
    pDim (prDim d ++ rest) = some (d, rest) := by
  obtain ⟨n, l⟩ := d
  match rest, hr with
  | .sym c :: r, hr =>
    simp only [dimFollow, Bool.or_eq_true, beq_iff_eq] at hr
    cases n <;> cases l <;> simp only [dimOk, Bool.and_true, Bool.true_and, Bool.and_eq_true] at hd <;>
      rcases hr with rfl | rfl <;>
      simp [pDim, prDim, openParens, pDimCore, closeParens, hd]

theorem dimFollow_rest (ds : List Dim) (rest : List Tok) : dimFollow (prDimsRest ds ++ rest) = true := by
  cases ds <;> simp [prDimsRest, dimFollow]

theorem pDimsRest_pr : ∀ (ds : List Dim) (f : Nat) (rest : List Tok), ds.all dimOk = true → ds.length + 1 ≤ f →
    pDimsRest f (prDimsRest ds ++ rest) = some (ds, rest)
  | [], f + 1, rest, _, _ => by simp [prDimsRest, pDimsRest]
  | d :: r, f + 1, rest, h, hf => by
    simp only [List.all_cons, Bool.and_eq_true] at h
    have h1 := pDim_prDim d (prDimsRest r ++ rest) h.1 (dimFollow_rest r rest)
    have ih := pDimsRest_pr r f rest h.2 (by simpa using hf)
    simp [prDimsRest, pDimsRest, h1, ih]
  | _, 0, _, _, hf => nomatch hf

theorem prDimsRest_length (ds : List Dim) : ds.length + 1 ≤ (prDimsRest ds).length := by
  induction ds with
  | nil => simp [prDimsRest]
  | cons d r ih => simp [prDimsRest]; omega

theorem pArray_pr (ds : List Dim) (rest : List Tok) (h : dimsOk ds = true) :
    pArray (prDims ds ++ rest) = some (ds, rest) := by
  simp only [dimsOk, Bool.and_eq_true, Bool.not_eq_true', beq_eq_false_iff_ne, ne_eq] at h
  cases ds with
  | nil => simp [prDims, pArray]
  | cons d r =>
    have hall := h.1
    simp only [List.all_cons, Bool.and_eq_true] at hall
    have h1 := pDim_prDim d (prDimsRest r ++ rest) hall.1 (dimFollow_rest r rest)
    have hlen := prDimsRest_length r
    have h2 := pDimsRest_pr r ((prDimsRest r ++ rest).length + 1) rest hall.2 (by simp; omega)
    -- the first token is not `]`
    have hne : ∀ x, prDim d ++ (prDimsRest r ++ rest) ≠ .sym ']' :: x := by
      intro x
      obtain ⟨n, l⟩ := d
      cases n <;> cases l <;> simp [prDim]
      -- the empty dimension: then `r` is not empty
      cases r with
      | nil => exact absurd rfl h.2
      | cons e r' => simp [prDimsRest]
    -- the second arm of `pArray`, restated: its pattern overlaps the first (`]`), so it does not unfold without `hne`
    have : pArray (prDim d ++ (prDimsRest r ++ rest)) =
        match pDim (prDim d ++ (prDimsRest r ++ rest)) with
        | some (d, ts') => (pDimsRest (ts'.length + 1) ts').map fun r => (d :: r.1, r.2)
        | none => none := by
      generalize hts : prDim d ++ (prDimsRest r ++ rest) = ts at hne
      unfold pArray
      split
      · exact absurd rfl (hne _)
      · rfl
    simp only [prDims, List.append_assoc, this, h1, h2, Option.map_some]

/-- what can follow a type: nothing, `)`, `,`, `>` -/
def okRest : List Tok → Bool
  | [] => true
  | .sym c :: _ => c == ')' || c == ',' || c == '>'
  | _ => false

/-- empty or starting with a punctuation token other than `<` -/
def symHead : List Tok → Bool
  | [] => true
  | .sym c :: _ => c != '<'
  | _ => false

theorem symHead_tails (tails : Tails) (rest : List Tok) (h : okRest rest = true) :
    symHead (prTails tails ++ rest) = true := by
  cases tails with
  | nil =>
    match rest, h with
    | [], _ => rfl
    | .sym c :: _, h =>
      simp only [okRest, Bool.or_eq_true, beq_iff_eq] at h
      rcases h with (rfl | rfl) | rfl <;> rfl
  | cons t r =>
    cases t with
    | optional | mapValue v | array d => rfl
    | vector l => cases l <;> rfl

theorem okRest_prRest (r : SL) (rest : List Tok) : okRest (prRest r ++ rest) = true := by
  cases r <;> rfl

theorem pTails_stop (f : Nat) (rest : List Tok) (h : okRest rest = true) : pTails (f + 1) rest = some (.nil, rest) := by
  match rest, h with
  | [], _ => rfl
  | .sym c :: r, h =>
    simp only [okRest, Bool.or_eq_true, beq_iff_eq] at h
    rcases h with (rfl | rfl) | rfl <;> rfl

theorem pArgsOpt_nil (f : Nat) (rest : List Tok) (h : symHead rest = true) : pArgsOpt (f + 1) rest = some (.nil, rest) := by
  match rest, h with
  | [], _ => unfold pArgsOpt; rfl
  | .sym c :: r, h =>
    simp only [symHead, bne_iff_ne, ne_eq] at h
    unfold pArgsOpt
    split
    · rename_i heq; simp at heq  -- fuel 0
    · rename_i heq1 heq2  -- the clause for `<`
      simp only [List.cons.injEq, Tok.sym.injEq] at heq2
      exact absurd heq2.1 h
    · rfl  -- the last clause

/-- one step of `pTails` on a printed tail other than a map value (that one recurses into `pType`) -/
theorem pTails_head (f : Nat) (t : Tail) (ts : List Tok) (hm : ∀ v, t ≠ .mapValue v) (hc : canonTail t = true)
    (h : symHead ts = true) : pTails (f + 1) (prTail t ++ ts) = (pTails f ts).map fun r => (.cons t r.1, r.2) := by
  cases t with
  | mapValue v => exact absurd rfl (hm v)
  | optional => rfl
  | vector l =>
    cases l with
    | some n => simp [prTail, pTails, show fitsU64 n = true from hc]
    | none =>
      -- `*` followed by an integer token is the other clause: `ts` does not start with one
      match ts, h with
      | [], _ => rfl
      | .sym c :: r, _ => rfl
  | array dims => simp [prTail, pTails, pArray_pr dims ts hc]

/-- `a`, `b`: what the two callees of a parser function need; both are called with the same fuel `f` -/
theorem fuel_split {a b f : Nat} (h : 1 + max a b ≤ f + 1) : a ≤ f ∧ b ≤ f := by omega

/-! The fuel the parser functions use up on the printed form of a tree. `max` and not a sum: a function hands the same `f` to
    each of its callees. `.nil` costs 1: the function is still entered, to see that nothing follows. A tail other than a map
    value costs nothing of its own: `pTails` reads it in the step that is counted for the list cell. `needArgs` and `needRest`
    are the same function, once for `pArgsOpt` and once for `pArgsRest`, which differ in their first token only. -/

mutual
  def needS : S → Nat
    | .named _ args tails => 1 + max (needArgs args) (needTails tails)
    | .sub s tails => 1 + max (needS s) (needTails tails)
  def needArgs : SL → Nat
    | .nil => 1
    | .cons s r => 1 + max (needS s) (needRest r)
  def needRest : SL → Nat
    | .nil => 1
    | .cons s r => 1 + max (needS s) (needRest r)
  def needTails : Tails → Nat
    | .nil => 1
    | .cons t r => 1 + max (needTail t) (needTails r)
  def needTail : Tail → Nat
    | .mapValue v => needS v
    | _ => 0
end

mutual
  theorem pType_pr : ∀ (s : S) (f : Nat) (rest : List Tok), canon s = true → okRest rest = true → needS s ≤ f →
      pType f (pr s ++ rest) = some (s, rest)
    | .named .., 0, _, _, _, hf | .sub .., 0, _, _, _, hf => by simp [needS] at hf
    | .named n args tails, f + 1, rest, hc, hr, hf => by
      simp only [canon, Bool.and_eq_true] at hc
      have hf := fuel_split hf
      have h1 := pArgsOpt_pr args f (prTails tails ++ rest) hc.1 (symHead_tails tails rest hr) hf.1
      have h2 := pTails_pr tails f rest hc.2 hr hf.2
      simp [pr, pType, h1, h2]
    | .sub s tails, f + 1, rest, hc, hr, hf => by
      simp only [canon, Bool.and_eq_true] at hc
      have hf := fuel_split hf
      have h1 := pType_pr s f (.sym ')' :: (prTails tails ++ rest)) hc.1 rfl hf.1
      have h2 := pTails_pr tails f rest hc.2 hr hf.2
      simp [pr, pType, h1, h2]
  theorem pArgsOpt_pr : ∀ (args : SL) (f : Nat) (rest : List Tok), canonL args = true → symHead rest = true → needArgs args ≤ f →
      pArgsOpt f (prArgs args ++ rest) = some (args, rest)
    | .nil, 0, _, _, _, hf | .cons .., 0, _, _, _, hf => by simp [needArgs] at hf
    | .nil, f + 1, rest, _, hr, _ => by simpa [prArgs] using pArgsOpt_nil f rest hr
    | .cons s r, f + 1, rest, hc, _, hf => by
      simp only [canonL, Bool.and_eq_true] at hc
      have hf := fuel_split hf
      have h1 := pType_pr s f (prRest r ++ rest) hc.1 (okRest_prRest r rest) hf.1
      have h2 := pRest_pr r f rest hc.2 hf.2
      simp [prArgs, pArgsOpt, h1, h2]
  theorem pRest_pr : ∀ (r : SL) (f : Nat) (rest : List Tok), canonL r = true → needRest r ≤ f →
      pArgsRest f (prRest r ++ rest) = some (r, rest)
    | .nil, 0, _, _, hf | .cons .., 0, _, _, hf => by simp [needRest] at hf
    | .nil, f + 1, rest, _, _ => by simp [prRest, pArgsRest]
    | .cons s r, f + 1, rest, hc, hf => by
      simp only [canonL, Bool.and_eq_true] at hc
      have hf := fuel_split hf
      have h1 := pType_pr s f (prRest r ++ rest) hc.1 (okRest_prRest r rest) hf.1
      have h2 := pRest_pr r f rest hc.2 hf.2
      simp [prRest, pArgsRest, h1, h2]
  theorem pTails_pr : ∀ (tails : Tails) (f : Nat) (rest : List Tok), canonT tails = true → okRest rest = true → needTails tails ≤ f →
      pTails f (prTails tails ++ rest) = some (tails, rest)
    | .nil, 0, _, _, _, hf | .cons .., 0, _, _, _, hf => by simp [needTails] at hf
    | .nil, f + 1, rest, _, hr, _ => by simpa [prTails] using pTails_stop f rest hr
    | .cons (.mapValue v) r, f + 1, rest, hc, hr, hf => by
      simp only [canonT, Bool.and_eq_true] at hc
      have hf := fuel_split hf
      obtain rfl : r = .nil := by
        cases r with
        | nil => rfl
        | cons _ _ => simp at hc
      have h1 := pType_pr v f rest hc.1 hr hf.1
      -- the tail list after the map value is empty and still asks for one unit of fuel
      obtain ⟨g, rfl⟩ := Nat.exists_eq_add_one.2 hf.2
      have h2 := pTails_stop g rest hr
      simp [prTails, prTail, pTails, h1, h2]
    | .cons .optional r, f + 1, rest, hc, hr, hf | .cons (.vector l) r, f + 1, rest, hc, hr, hf
    | .cons (.array dims) r, f + 1, rest, hc, hr, hf => by
      simp only [canonT, Bool.and_eq_true] at hc
      have hf := fuel_split hf
      rw [prTails, List.append_assoc, pTails_head f _ _ (by nofun) hc.1 (symHead_tails r rest hr),
        pTails_pr r f rest hc.2 hr hf.2]
      rfl
end

/-! ### the fuel `parse` supplies is enough -/

mutual
  theorem needS_le : ∀ (s : S), needS s ≤ (pr s).length + 1
    | .named n args tails => by
      have h1 := needArgs_le args
      have h2 := needTails_le tails
      simp only [needS, pr, List.length_cons, List.length_append]
      omega
    | .sub s tails => by
      have h1 := needS_le s
      have h2 := needTails_le tails
      simp only [needS, pr, List.length_cons, List.length_append]
      omega
  theorem needArgs_le : ∀ (a : SL), needArgs a ≤ (prArgs a).length + 1
    | .nil => by simp [needArgs]
    | .cons s r => by
      have h1 := needS_le s
      have h2 := needRest_le r
      simp only [needArgs, prArgs, List.length_cons, List.length_append]
      omega
  theorem needRest_le : ∀ (a : SL), needRest a ≤ (prRest a).length
    | .nil => by simp [needRest, prRest]
    | .cons s r => by
      have h1 := needS_le s
      have h2 := needRest_le r
      have h3 : 1 ≤ (prRest r).length := by cases r <;> simp [prRest]
      simp only [needRest, prRest, List.length_cons, List.length_append]
      omega
  theorem needTails_le : ∀ (t : Tails), needTails t ≤ (prTails t).length + 1
    | .nil => by simp [needTails]
    | .cons t r => by
      have h1 := needTail_le t
      have h2 := needTails_le r
      simp only [needTails, prTails, List.length_append]
      omega
  theorem needTail_le : ∀ (t : Tail), needTail t + 1 ≤ (prTail t).length
    | .mapValue v => by
      have := needS_le v
      simp only [needTail, prTail, List.length_cons]
      omega
    | .optional | .vector (some n) | .vector none | .array d => by simp [needTail, prTail]
end

theorem parse_pr (s : S) (h : canon s = true) : parse (pr s) = some s := by
  have hn := needS_le s
  have := pType_pr s (2 * (pr s).length + 2) [] h rfl (by omega)
  simp only [List.append_nil] at this
  simp [parse, this]

end Yardl.TypeParser
