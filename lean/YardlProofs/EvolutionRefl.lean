import YardlModel.Evolution
import YardlProofs.ListLemmas

/-!
  What the change detection does with the parts of two versions that did not change: a well-formed type compared with
  itself is unchanged (`cmp_self`), a run of union cases or of protocol steps that stands where it stood is matched with
  itself and contributes nothing (`unionLoop_mid`, `protoLoop_mid`). The look-ups by name that the record, enum and
  protocol lemmas share stand at the beginning (`namesDistinct_iff`, `lookupField_*`, `none_missing`).
-/

namespace Yardl.Evo
open Yardl

theorem fields_mem : ∀ (fs : EFields) (n : Nat) (t : ETy), (n, t) ∈ fs.toList →
    (wfF fs = true → wfT t = true) ∧ depth t ≤ depthF fs
  | .nil, _, _, h => by simp [EFields.toList] at h
  | .cons m u r, n, t, h => by
    simp only [EFields.toList, List.mem_cons, Prod.mk.injEq] at h
    rcases h with ⟨_, rfl⟩ | h
    · simp only [wfF, depthF, Bool.and_eq_true]
      exact ⟨fun h => h.1, Nat.le_max_left _ _⟩
    · have ih := fields_mem r n t h
      simp only [wfF, depthF, Bool.and_eq_true]
      exact ⟨fun h2 => ih.1 h2.2, Nat.le_trans ih.2 (Nat.le_max_right _ _)⟩

theorem cases_mem : ∀ (cs : ECases) (t : ETy), some t ∈ cs.toList →
    (wfC cs = true → wfT t = true) ∧ depth t ≤ depthC cs
  | .nil, _, h => by simp [ECases.toList] at h
  | .null r, t, h => by
    simp only [ECases.toList, List.mem_cons, reduceCtorEq, false_or] at h
    have ih := cases_mem r t h
    simp only [wfC, depthC]
    exact ih
  | .cons u r, t, h => by
    simp only [ECases.toList, List.mem_cons, Option.some.injEq] at h
    rcases h with rfl | h
    · simp only [wfC, depthC, Bool.and_eq_true]
      exact ⟨fun h => h.1, Nat.le_max_left _ _⟩
    · have ih := cases_mem r t h
      simp only [wfC, depthC, Bool.and_eq_true]
      exact ⟨fun h2 => ih.1 h2.2, Nat.le_trans ih.2 (Nat.le_max_right _ _)⟩

theorem forall_fields {P : ETy → Prop} {K : Nat} (ih : ∀ t, wfT t = true → depth t ≤ K → P t) {fs : EFields}
    (hw : wfF fs = true) (hK : depthF fs ≤ K) : ∀ e ∈ fs.toList, P e.2 := fun e he =>
  have hm := fields_mem fs e.1 e.2 he
  ih e.2 (hm.1 hw) (Nat.le_trans hm.2 hK)

theorem depth_pos (t : ETy) : 0 < depth t := by
  cases t <;> simp [depth]

theorem cmpCase_self (f : ETy → ETy → Cls) {l : List (Option ETy)} (hf : ∀ t, some t ∈ l → f t t = .same) :
    ∀ c ∈ l, cmpCase f c c = .same
  | none, _ => rfl
  | some t, hc => hf t hc

theorem namesDistinct_iff {α : Type} (l : List (Nat × α)) : namesDistinct l = true ↔ l.Pairwise (fun a b => a.1 ≠ b.1) :=
  List.distinctBy_iff (·.1) namesDistinct rfl (fun _ _ => rfl) l

theorem stepNamesDistinct_iff (l : List EStep) : stepNamesDistinct l = true ↔ l.Pairwise (fun a b => a.name ≠ b.name) :=
  List.distinctBy_iff (·.name) stepNamesDistinct rfl (fun _ _ => rfl) l

theorem lookupField_middle {l pre post : List (Nat × ETy)} {n : Nat} {t : ETy} (hd : namesDistinct l = true)
    (hl : l = pre ++ (n, t) :: post) : lookupField l n = some t ∧ indexOfField l n = pre.length := by
  subst hl
  have h := List.find?_key_middle (fun x : Nat × ETy => x.1) ((namesDistinct_iff _).mp hd)
  exact ⟨by simp only [lookupField, h.1], (List.findIdx?_eq_some_iff_findIdx_eq.mp h.2).2⟩

theorem lookupField_of_mem {l : List (Nat × ETy)} (hd : namesDistinct l = true) {e : Nat × ETy} (he : e ∈ l) :
    lookupField l e.1 = some e.2 := by
  simp only [lookupField, List.find?_key_of_mem (fun x : Nat × ETy => x.1) ((namesDistinct_iff l).mp hd) he]

theorem lookupField_none_of_fresh (fs : List (Nat × ETy)) (n : Nat) (hfresh : ∀ e ∈ fs, e.1 ≠ n) : lookupField fs n = none := by
  simp only [lookupField, (List.find?_key_fresh (fun e : Nat × ETy => e.1) hfresh).1]

/-- no field of `a` counts as missing from `b` when `b` holds them all. `q` is whatever else the caller's test asks of a
    missing field: `!isNullable e.2` in the `addSev` of `recordSev`, nothing (`fun _ => true`) in `recordChange` -/
theorem none_missing {a b : List (Nat × ETy)} (hd : namesDistinct b = true) (hsub : ∀ e ∈ a, e ∈ b) (q : Nat × ETy → Bool) :
    (a.any fun e => (lookupField b e.1).isNone && q e) = false :=
  List.any_eq_false.mpr fun e he => by simp [lookupField_of_mem hd (hsub e he)]

theorem lookupSym_of_mem {s : List (Nat × Int)} (hd : namesDistinct s = true) {e : Nat × Int} (he : e ∈ s) :
    lookupSym s e.1 = some e.2 := by
  simp only [lookupSym, List.find?_key_of_mem (fun x : Nat × Int => x.1) ((namesDistinct_iff s).mp hd) he]

/-- what compareEnumDefinitions takes for a breaking change: another base type, or an old symbol that is gone or has
    another value -/
theorem enumBreaks_iff (nb ob : Prim) (ns os : List (Nat × Int)) :
    enumBreaks nb ns ob os = true ↔ nb ≠ ob ∨ ∃ e ∈ os, lookupSym ns e.1 ≠ some e.2 := by
  have hsym : ∀ e : Nat × Int, lookupSym ns e.1 ≠ some e.2 ↔
      (lookupSym ns e.1).isNone = true ∨ (match lookupSym ns e.1 with | some v => v != e.2 | none => false) = true := by
    intro e
    cases lookupSym ns e.1 <;> simp
  -- both sides become the same disjunction
  simp only [enumBreaks, Bool.or_eq_true, bne_iff_ne, List.any_eq_true, hsym, or_assoc, ← exists_or, ← and_or_left]
  exact Iff.rfl

theorem enumBreaks_of_kept (b : Prim) {ns os : List (Nat × Int)} (hkept : ∀ e ∈ os, lookupSym ns e.1 = some e.2) :
    enumBreaks b ns b os = false := by
  rw [← Bool.not_eq_true, enumBreaks_iff]
  rintro (h | ⟨e, he, h⟩)
  · exact h rfl
  · exact h (hkept e he)

theorem enumChange_self (fl : Bool) (b : Prim) (s : List (Nat × Int)) (hd : namesDistinct s = true) :
    enumChange fl b s fl b s = .same := by
  have h1 : (s.any fun e => (lookupSym s e.1).isNone) = false :=
    List.any_eq_false.mpr fun e he => by simp [lookupSym_of_mem hd he]
  simp [enumChange, enumBreaks_of_kept b (fun e he => lookupSym_of_mem hd he), h1]

theorem recordOldChanged_self (f : ETy → ETy → Cls) (full : List (Nat × ETy))
    (hd : namesDistinct full = true) (hf : ∀ e ∈ full, f e.2 e.2 = .same) :
    ∀ (suf pre : List (Nat × ETy)), full = pre ++ suf → recordOldChanged f full suf pre.length = false
  | [], _, _ => by simp [recordOldChanged]
  | (n, t) :: r, pre, h => by
    have hl := lookupField_middle hd h
    have ih := recordOldChanged_self f full hd hf r (pre ++ [(n, t)]) (by simp [h])
    simp only [List.length_append, List.length_cons, List.length_nil, Nat.zero_add] at ih
    have hft : f t t = .same := hf (n, t) (by simp [h])
    simp [recordOldChanged, hl.1, hl.2, hft, ih]

theorem recordChange_self (f : ETy → ETy → Cls) (fs : List (Nat × ETy))
    (hd : namesDistinct fs = true) (hf : ∀ e ∈ fs, f e.2 e.2 = .same) :
    recordChange f fs fs = .same := by
  have h1 : (fs.any fun e => (lookupField fs e.1).isNone) = false := by
    simpa using none_missing hd (fun _ h => h) (fun _ => true)
  have h2 := recordOldChanged_self f fs hd hf fs [] (by simp)
  simp only [List.length_nil] at h2
  simp [recordChange, h1, h2]

/-- a case that matches itself is matched where it stands (`j`, not taken yet), as unchanged, provided every earlier old
    case is taken or does not match it -/
theorem findMatch_at (f : ETy → ETy → Cls) (c : Option ETy) (hc : cmpCase f c c = .same) :
    ∀ (olds : List (Option ETy)) (om : List Bool) (j base : Nat), olds[j]? = some c → om[j]? = some false →
      (∀ k, k < j → ∀ o, olds[k]? = some o → om[k]? = some true ∨ (cmpCase f c o).matches = false) →
      findMatch f c olds om base = some (base + j, .same)
  | [], _, j, _, h, _, _ => by simp at h
  | _ :: _, [], _, _, _, hm, _ => by simp at hm
  | o :: os, m :: ms, 0, base, ho, hm, _ => by
    simp only [List.getElem?_cons_zero, Option.some.injEq] at ho hm
    subst ho; subst hm
    simp [findMatch, hc, Cls.matches]
  | o :: os, m :: ms, j + 1, base, ho, hm, hk => by
    simp only [List.getElem?_cons_succ] at ho hm
    have ih := findMatch_at f c hc os ms j (base + 1) ho hm
      (fun k hkj o' ho' => by simpa using hk (k + 1) (by omega) o' (by simpa using ho'))
    have h0 := hk 0 (by omega) o (by simp)
    simp only [List.getElem?_cons_zero, Option.some.injEq] at h0
    have e : base + 1 + j = base + (j + 1) := by omega
    rcases h0 with h0 | h0
    · simp only [findMatch, h0, if_true, ih, e]
    · cases m with
      | true => simp only [findMatch, if_true, ih, e]
      | false => simp only [findMatch, Bool.false_eq_true, if_false, h0, ih, e]

theorem findMatch_self (f : ETy → ETy → Cls) (c : Option ETy) (hc : cmpCase f c c = .same)
    (pre post : List (Option ETy)) (ms : List Bool) (j : Nat) :
    findMatch f c (pre ++ c :: post) (List.replicate pre.length true ++ false :: ms) j = some (j + pre.length, .same) :=
  findMatch_at f c hc _ _ pre.length j (by simp) (by simp)
    (fun k hk o _ => Or.inl (by simp [List.getElem?_append_left, hk]))

/-- `setTrue` is `List.set` with `true`: what core Lean knows of `set` serves -/
theorem setTrue_eq_set : ∀ (l : List Bool) (j : Nat), setTrue l j = l.set j true
  | [], _ => rfl
  | _ :: _, 0 => rfl
  | b :: r, j + 1 => by rw [setTrue, setTrue_eq_set r j, List.set_cons_succ]

theorem setTrue_replicate (i : Nat) (ms : List Bool) :
    setTrue (List.replicate i true ++ false :: ms) i = List.replicate (i + 1) true ++ ms := by
  rw [setTrue_eq_set, List.set_append_right _ _ (by simp)]
  simp [List.replicate_succ']

/-- a run `mid` of cases that stands at the same place in both lists, behind cases all matched already, is matched
    with itself: nothing counts as reordered, no definition as changed (`ms`: the marks of the old cases behind it) -/
theorem unionLoop_mid (f : ETy → ETy → Cls) (olds rest : List (Option ETy)) (ms : List Bool) :
    ∀ (mid pre post : List (Option ETy)), olds = pre ++ mid ++ post → (∀ c ∈ mid, cmpCase f c c = .same) →
      unionLoop f olds (mid ++ rest) pre.length
        ⟨List.replicate pre.length true ++ (List.replicate mid.length false ++ ms), List.replicate pre.length true, false, false⟩
      = unionLoop f olds rest (pre.length + mid.length)
        ⟨List.replicate (pre.length + mid.length) true ++ ms, List.replicate (pre.length + mid.length) true, false, false⟩
  | [], pre, post, _, _ => by simp
  | c :: r, pre, post, h, hf => by
    have hm := findMatch_self f c (hf c (by simp)) pre (r ++ post) (List.replicate r.length false ++ ms) 0
    rw [show pre ++ c :: (r ++ post) = olds by simp [h], Nat.zero_add] at hm
    have ih := unionLoop_mid f olds rest ms r (pre ++ [c]) post (by simp [h]) (fun x hx => hf x (by simp [hx]))
    simp only [List.length_append, List.length_cons, List.length_nil, Nat.zero_add] at ih
    -- the right side goes back to the loop on `r ++ rest` from `pre.length + 1` (`← ih`), which is also what one round on
    -- the left gives; `replicate (n + 1)` is opened for that round (`findMatch_self` and `setTrue_replicate` want the
    -- leading `false` visible) and closed again for the new marks
    rw [show pre.length + (c :: r).length = pre.length + 1 + r.length by simp only [List.length_cons]; omega, ← ih]
    simp only [List.cons_append, unionLoop, List.length_cons, List.replicate_succ (n := r.length), hm, setTrue_replicate,
      bne_self_eq_false, Bool.or_false, show (Cls.same == Cls.defChanged) = false from rfl]
    rw [← List.replicate_succ]

/-- `unionLoop_mid` as `unionChange` meets it: the cases `cs` that both lists begin with match themselves, the loop goes on
    behind them -/
theorem unionLoop_common (f : ETy → ETy → Cls) (cs news olds : List (Option ETy)) (hf : ∀ c ∈ cs, cmpCase f c c = .same) :
    unionLoop f (cs ++ olds) (cs ++ news) 0 ⟨(cs ++ olds).map fun _ => false, [], false, false⟩
    = unionLoop f (cs ++ olds) news cs.length
        ⟨List.replicate cs.length true ++ olds.map fun _ => false, List.replicate cs.length true, false, false⟩ := by
  have h := unionLoop_mid f (cs ++ olds) news (olds.map fun _ => false) cs [] olds (by simp) hf
  simpa [List.map_const'] using h

theorem unionChange_self (f : ETy → ETy → Cls) (cs : List (Option ETy)) (hne : cs ≠ [])
    (hf : ∀ c ∈ cs, cmpCase f c c = .same) : unionChange f cs cs = .same := by
  have h := unionLoop_common f cs [] [] hf
  simp only [List.append_nil, List.map_nil, unionLoop] at h
  rw [unionChange, h]
  simp [hne]

theorem argsChange_self (f : ETy → ETy → Cls) : ∀ (l : List (Nat × ETy)), (∀ e ∈ l, f e.2 e.2 = .same) →
    argsChange f l l = some false
  | [], _ => rfl
  | a :: r, h => by
    have ha := h a (by simp)
    have ih := argsChange_self f r (fun e he => h e (by simp [he]))
    simp [argsChange, ha, ih, Cls.matches]

theorem argsChange_length : ∀ (f : ETy → ETy → Cls) (a b : List (Nat × ETy)), a.length ≠ b.length → argsChange f a b = none
  | _, [], [], h => by simp at h
  | _, [], _ :: _, _ => rfl
  | _, _ :: _, [], _ => rfl
  | f, x :: a, y :: b, h => by
    have ih := argsChange_length f a b (by simpa using h)
    simp only [argsChange, ih]
    split <;> rfl

theorem anyCase_of_mem (g : ETy → Cls) : ∀ (l : List (Option ETy)) (t : ETy), some t ∈ l → (g t).matches = true → anyCase g l = true
  | [], _, h, _ => by simp at h
  | none :: r, t, h, hm => by
    simp only [List.mem_cons, reduceCtorEq, false_or] at h
    simp [anyCase, anyCase_of_mem g r t h hm]
  | some u :: r, t, h, hm => by
    simp only [List.mem_cons, Option.some.injEq] at h
    rcases h with rfl | h
    · simp [anyCase, hm]
    · simp [anyCase, anyCase_of_mem g r t h hm]

theorem arrKindSame_refl (k : ArrKind) : arrKindSame k k = true := by
  cases k <;> simp [arrKindSame]

/-! `cmp` on the pairs of shapes that several proofs meet, each by `rfl`: `simp [cmp]` has Lean derive the equations of
  the whole 17-way match anew in every module, which is slow. Inside `cmp_self` the arm is met by `show` / `if_pos rfl`. -/

section
variable (fuel : Nat)

theorem cmp_record (n n' : Nat) (fs fs' : EFields) :
    cmp (fuel + 1) (.record n fs) (.record n' fs') =
      if n = n' then recordChange (cmp fuel) fs.toList fs'.toList else .error := rfl

theorem cmp_inst (n n' : Nat) (as as' b b' : EFields) :
    cmp (fuel + 1) (.inst n as b) (.inst n' as' b') =
      if n = n' then
        match argsChange (cmp fuel) as.toList as'.toList with
        | none => .error
        | some argChanged => if recordChange (cmp fuel) b.toList b'.toList != .same || argChanged then .defChanged else .same
      else .error := rfl

theorem cmp_union (cs cs' : ECases) :
    cmp (fuel + 1) (.union cs) (.union cs') = unionChange (cmp fuel) cs.toList cs'.toList := rfl

theorem cmp_optional_union (t : ETy) (cs' : ECases) :
    cmp (fuel + 1) (.optional t) (.union cs') =
      if cs'.toList.any Option.isNone && anyCase (fun c => cmp fuel t c) (cs'.toList.drop 1) then .warn else .error := rfl

theorem cmp_union_optional (cs : ECases) (t' : ETy) :
    cmp (fuel + 1) (.union cs) (.optional t') =
      if cs.toList.any Option.isNone && anyCase (fun c => cmp fuel c t') (cs.toList.drop 1) then .warn else .error := rfl

/-- `new` is neither an optional nor a union: a simple type, or a vector / array / map (the `isDim` branch) -/
theorem cmp_nongen_optional (new t' : ETy) (h : isScalarGen new = false) :
    cmp (fuel + 1) new (.optional t') = if isDim new then .error else if (cmp fuel new t').matches then .warn else .error := by
  cases new <;> first | rfl | simp [isScalarGen] at h

theorem cmp_optional_nongen (t old : ETy) (h : isScalarGen old = false) :
    cmp (fuel + 1) (.optional t) old = if isDim old then .error else if (cmp fuel t old).matches then .warn else .error := by
  cases old <;> first | rfl | simp [isScalarGen] at h

end

theorem cmp_self : ∀ (fuel : Nat) (t : ETy), wfT t = true → depth t ≤ fuel → cmp fuel t t = .same
  | 0, t, _, h => absurd h (Nat.not_le.mpr (depth_pos t))
  | fuel + 1, .prim _, _, _ | fuel + 1, .tparam _, _, _ => if_pos rfl
  | fuel + 1, .enum n fl b s, hw, _ => (if_pos rfl).trans (enumChange_self fl b s hw)
  | fuel + 1, .record n fs, hw, h => by
    simp only [wfT, Bool.and_eq_true] at hw
    simp only [depth] at h
    have hf := forall_fields (cmp_self fuel) hw.2 (by omega)
    simp [cmp_record, recordChange_self (cmp fuel) fs.toList hw.1 hf]
  | fuel + 1, .optional t, hw, h => by
    simp only [wfT] at hw
    have := cmp_self fuel t hw (by simp only [depth] at h; omega)
    exact congrArg Cls.wrap this
  | fuel + 1, .union cs, hw, h => by
    simp only [wfT, Bool.and_eq_true, Bool.not_eq_true', List.isEmpty_eq_false_iff] at hw
    simp only [depth] at h
    have hf := cmpCase_self (cmp fuel) (l := cs.toList) fun t ht =>
      have hm := cases_mem cs t ht
      cmp_self fuel t (hm.1 hw.2) (by omega)
    simp [cmp_union, unionChange_self (cmp fuel) cs.toList hw.1 hf]
  | fuel + 1, .inst n as b, hw, h => by
    simp only [wfT, Bool.and_eq_true] at hw
    simp only [depth] at h
    have hl := Nat.le_max_left (depthF as) (depthF b)
    have hr := Nat.le_max_right (depthF as) (depthF b)
    have hb := forall_fields (cmp_self fuel) hw.1.2 (by omega)
    have ha := forall_fields (cmp_self fuel) hw.2 (by omega)
    simp [cmp_inst, recordChange_self (cmp fuel) b.toList hw.1.1 hb, argsChange_self (cmp fuel) as.toList ha]
  | fuel + 1, .vector t l, hw, h => by
    simp only [wfT] at hw
    have := cmp_self fuel t hw (by simp only [depth] at h; omega)
    show (if cmp fuel t t = .error then .error else if l != l then .error else (cmp fuel t t).wrap) = Cls.same
    simp [this, Cls.wrap]
  | fuel + 1, .array t k, hw, h => by
    simp only [wfT] at hw
    have := cmp_self fuel t hw (by simp only [depth] at h; omega)
    show (if cmp fuel t t != .same then .error else if !arrKindSame k k then .error else .same) = Cls.same
    simp [this, arrKindSame_refl]
  | fuel + 1, .map k v, hw, h => by
    simp only [wfT, Bool.and_eq_true] at hw
    simp only [depth] at h
    have hl := Nat.le_max_left (depth k) (depth v)
    have hr := Nat.le_max_right (depth k) (depth v)
    have h1 := cmp_self fuel k hw.1 (by omega)
    have h2 := cmp_self fuel v hw.2 (by omega)
    show (if cmp fuel v v != .same then .error else if cmp fuel k k != .same then .error else .same) = Cls.same
    simp [h1, h2]

theorem findStep_middle {l pre post : List EStep} {s : EStep} (hd : stepNamesDistinct l = true)
    (hl : l = pre ++ s :: post) : findStep l s.name = some (pre.length, s) := by
  subst hl
  simp [findStep, (List.find?_key_middle (fun x : EStep => x.name) ((stepNamesDistinct_iff _).mp hd)).2]

theorem nothing_removed {new old : List EStep} (hd : stepNamesDistinct new = true) (hsub : ∀ o ∈ old, o ∈ new) :
    (old.any fun o => (findStep new o.name).isNone) = false := by
  simp only [List.any_eq_false]
  intro o ho
  obtain ⟨pre, post, h⟩ := List.append_of_mem (hsub o ho)
  simp [findStep_middle hd h]

theorem matchedStepVerdict_self (env : Env) (s : EStep) (hw : wfT s.ty = true) :
    matchedStepVerdict env s s = .ok := by
  have hc := cmp_self (depth s.ty + depth s.ty) s.ty hw (by omega)
  cases hs : s.stream <;> simp [matchedStepVerdict, stepVerdict, hs, hc]

theorem Sev.max_err_left (s : Sev) : Sev.max .err s = .err := by cases s <;> rfl
theorem Sev.max_err_right (s : Sev) : Sev.max s .err = .err := by cases s <;> rfl
theorem Sev.max_ok_left (s : Sev) : Sev.max .ok s = s := by cases s <;> rfl
theorem sev_max_ok : Sev.max .ok .ok = .ok := Sev.max_ok_left .ok
theorem Sev.max_ok_right (s : Sev) : Sev.max s .ok = s := by cases s <;> rfl

/-- an unchanged run of steps `mid`, standing where it stood in the old protocol, contributes nothing -/
theorem protoLoop_mid (env : Env) (old : List EStep) (hd : stepNamesDistinct old = true)
    (hw : ∀ s ∈ old, wfT s.ty = true) (rest : List EStep) (acc : Sev) :
    ∀ (mid front tail : List EStep), old = front ++ mid ++ tail →
      protoLoop env old (mid ++ rest) front.length acc = protoLoop env old rest (front.length + mid.length) acc
  | [], front, tail, _ => by simp
  | s :: r, front, tail, h => by
    have hf := findStep_middle hd (show old = front ++ s :: (r ++ tail) by simp [h])
    have hm := matchedStepVerdict_self env s (hw s (by simp [h]))
    have ih := protoLoop_mid env old hd hw rest acc r (front ++ [s]) tail (by simp [h])
    simp only [List.length_append, List.length_cons, List.length_nil, Nat.zero_add] at ih
    simp only [List.cons_append, protoLoop, hf, bne_self_eq_false, Bool.false_eq_true, if_false, hm, Sev.max_ok_right, ih,
      List.length_cons]
    congr 1
    omega

theorem wfSteps_iff (steps : List EStep) :
    wfSteps steps = true ↔ stepNamesDistinct steps = true ∧ ∀ s ∈ steps, wfT s.ty = true := by
  simp only [wfSteps, Bool.and_eq_true, List.all_eq_true]

end Yardl.Evo
