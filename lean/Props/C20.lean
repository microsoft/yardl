import YardlModel.Watch

/-!
# C20 — Watch mode converges to the output for the final package contents

Model: `YardlModel/Watch.lean`. A theorem cannot exhibit goroutine scheduling, file-system event
delivery or partially written files; what it carries is the bookkeeping of `dedupLoop`: which
regeneration's output is on disk once everything is quiet. The runtime part is decided by driving the
real `yardl generate --watch` (built with the `verif` tag so that one regeneration can be delayed).

Proved here:
* `serialized_converges` — with at most one regeneration in flight and a remembered pending firing
  (the code after fix), in every quiescent state reachable by *any* sequence of saves, timer firings
  and completions, the output on disk is the output of the final contents (when those are valid) —
  including every schedule in which saves arrive during a regeneration.
* `concurrent_can_be_overtaken` — with one goroutine per firing (the code before the fix) a slow
  regeneration overtaken by a fast one leaves stale output: a concrete schedule, kernel-evaluated.
* `concurrent_converges_if_fifo` — the same policy does converge on schedules whose regenerations
  complete in start order (why the defect needs an unlucky schedule).
* `skip_if_busy_drops_the_last_save` — the "do not overlap" policy without a pending flag (the C20
  seed) loses the last save even on first-in-first-out schedules.
* `invalid_intermediate_states_are_harmless` — an invalid version never reaches the disk, and the
  watcher keeps going (corollary of `serialized_converges` with arbitrary `valid`).
-/

namespace Yardl.C20
open Yardl.Watch

/-- a first formulation of the invariant of the serialized policy; nothing below uses it: the invariant that is proved is `Good` -/
def Inv (s : St) : Prop :=
  s.running.length ≤ 1 ∧ (s.running = [] → s.pending = false) ∧
  (s.timer = false → s.pending = false → (∀ v ∈ s.running, v = s.content) ∧ (s.running = [] → (s.out = s.content ∨ True)))

/-- the serialized watcher is idle with nothing remembered, and then what is on disk is the final contents if those are valid
    and no firing is due; or exactly one regeneration runs, and it has read the final contents unless another firing is due or
    remembered -/
def Good (valid : Nat → Bool) (s : St) : Prop :=
  (s.running = [] ∧ s.pending = false ∧ (s.timer = false → valid s.content = true → s.out = s.content)) ∨
  (∃ w, s.running = [w] ∧ (s.timer = false → s.pending = false → w = s.content))

theorem quiescent_iff (s : St) : quiescent s = true ↔ s.timer = false ∧ s.running = [] ∧ s.pending = false := by
  simp [quiescent, and_assoc]

theorem good_step (valid : Nat → Bool) (s : St) (op : Op) (h : Good valid s) : Good valid (step .serialized valid s op) := by
  obtain ⟨c, t, r, pd, o⟩ := s
  cases op with
  | save v => rcases h with ⟨rfl, rfl, -⟩ | ⟨w, rfl, -⟩ <;> simp [Good, step]
  | fire =>
    cases t with
    | false => exact h  -- no firing is due: nothing happens
    | true => rcases h with ⟨rfl, rfl, -⟩ | ⟨w, rfl, -⟩ <;> simp [Good, step]
  | finish i =>
    rcases h with ⟨rfl, rfl, h3⟩ | ⟨w, rfl, h3⟩
    · exact .inl ⟨rfl, rfl, h3⟩  -- nothing runs, so nothing completes
    · cases i with
      | zero =>
        cases pd with
        | true => simp [Good, step]
        | false =>
          -- nothing remembered: the regeneration that completes has read the final contents
          suffices t = false → valid c = true → (if valid w = true then w else o) = c by simpa [Good, step]
          intro ht hv
          rw [h3 ht rfl, if_pos hv]
      | succ j => exact .inr ⟨w, rfl, h3⟩

/-- however saves, timer firings and completions interleave, once everything is quiet the output on
    disk is the output of the final package contents -/
theorem serialized_converges (valid : Nat → Bool) (v0 : Nat) (ops : List Op)
    (hq : quiescent (run .serialized valid (init v0) ops) = true)
    (hv : valid (run .serialized valid (init v0) ops).content = true) :
    (run .serialized valid (init v0) ops).out = (run .serialized valid (init v0) ops).content := by
  have h : Good valid (ops.foldl (step .serialized valid) (init v0)) :=
    List.foldlRecOn ops _ (by simp [Good, init]) fun s hs op _ => good_step valid s op hs
  obtain ⟨ht, hr, _⟩ := (quiescent_iff _).1 hq
  rcases h with ⟨_, _, h3⟩ | ⟨w, hw, _⟩
  · exact h3 ht hv
  · cases hw.symm.trans hr

theorem invalid_intermediate_states_are_harmless :
    let valid : Nat → Bool := fun v => v != 2
    let s := run .serialized valid (init 1) [.save 2, .fire, .save 3, .fire, .finish 0, .finish 0]
    quiescent s = true ∧ s.out = 3 := by
  decide

/-- a slow regeneration overtaken by a fast one: stale output under the one-goroutine-per-firing policy -/
theorem concurrent_can_be_overtaken :
    let s := run .concurrent (fun _ => true) (init 0) [.save 1, .fire, .save 2, .fire, .finish 1, .finish 0]
    quiescent s = true ∧ s.content = 2 ∧ s.out = 1 := by
  decide

/-- the "never overlap" policy without a pending flag loses the last save -/
theorem skip_if_busy_drops_the_last_save :
    let s := run .skipIfBusy (fun _ => true) (init 0) [.save 1, .fire, .save 2, .fire, .finish 0]
    quiescent s = true ∧ s.content = 2 ∧ s.out = 1 := by
  decide

/-- every completion is that of index 0, the oldest regeneration in flight -/
def fifo : List Op → Bool
  | [] => true
  | .finish i :: r => i == 0 && fifo r
  | _ :: r => fifo r

/-- invariant of the one-goroutine-per-firing policy on first-in-first-out schedules: nothing is ever remembered; when no firing is due,
    the youngest regeneration in flight has read the final contents, and with none in flight the final contents are on disk -/
def GoodC (s : St) : Prop :=
  s.pending = false ∧ (s.timer = false → (s.running ≠ [] → s.running.getLast? = some s.content) ∧ (s.running = [] → s.out = s.content))

theorem goodC_step (s : St) (op : Op) (hf : fifo [op] = true) (h : GoodC s) : GoodC (step .concurrent (fun _ => true) s op) := by
  obtain ⟨c, t, r, pd, o⟩ := s
  simp only [GoodC] at h
  obtain ⟨rfl, h2⟩ := h
  cases op with
  | save v => simp [GoodC, step]
  | fire =>
    cases t with
    | false => exact ⟨rfl, h2⟩
    | true => simp [GoodC, step]
  | finish i =>
    -- first in, first out: the regeneration that completes is the oldest one; the youngest stays the last of the list
    obtain rfl : i = 0 := by simpa [fifo] using hf
    cases r with
    | nil => simpa [GoodC, step] using h2
    | cons w rest => cases rest <;> simpa [GoodC, step] using h2

theorem fifo_of_mem : ∀ {ops : List Op}, fifo ops = true → ∀ op ∈ ops, fifo [op] = true
  | a :: as, hf, op, hm => by
    have h1 : fifo [a] = true ∧ fifo as = true := by cases a <;> simp_all [fifo]
    rcases List.mem_cons.1 hm with rfl | hm
    · exact h1.1
    · exact fifo_of_mem h1.2 op hm

theorem concurrent_converges_if_fifo (v0 : Nat) (ops : List Op) (hf : fifo ops = true)
    (hq : quiescent (run .concurrent (fun _ => true) (init v0) ops) = true) :
    (run .concurrent (fun _ => true) (init v0) ops).out = (run .concurrent (fun _ => true) (init v0) ops).content := by
  have h : GoodC (ops.foldl (step .concurrent (fun _ => true)) (init v0)) :=
    List.foldlRecOn ops _ (by simp [GoodC, init]) fun s hs op hop => goodC_step s op (fifo_of_mem hf op hop) hs
  obtain ⟨ht, hr, _⟩ := (quiescent_iff _).1 hq
  exact (h.2 ht).2 hr

end Yardl.C20
