import YardlModel.Syntax

/-!
  Every spelling that the checkers `isShort` / `isSpelling` accept builds, as consumers see it (`norm`), the tree `tree t`.
  Both proofs go by induction along the clauses of the checker (`isShort.mutual_induct`, `isSpelling.mutual_induct`): one case
  per accepting clause, which reads like the matching clause of `tree`; the rejecting clauses are closed together at the end,
  where rewriting with the clause leaves `false = true`.

  `mutual_induct` has one case per clause of the checker (a clause with an inner `match`: one per alternative), numbered
  through all the functions; each `case caseN` below says which clause it is, the numbers left out are the rejecting ones.
  The conjuncts of `spelling_sound_all` stand in the order of the principle's motives (spelling, tagged cases, sequence
  cases, list), not the model's, because `apply` has to match its conclusion.
-/

namespace Yardl.Syntax

theorem applyTails_snoc : ∀ (ts : Tails) (t : T) (x : Tail), applyTails t (ts.snoc x) = applyTail (applyTails t ts) x
  | .nil, t, x => by simp [Tails.snoc, applyTails]
  | .cons y r, t, x => by simp [Tails.snoc, applyTails, applyTails_snoc r]

theorem Tails.unsnoc_spec : ∀ (ts ts' : Tails) (x : Tail), ts.unsnoc = some (ts', x) → ts = ts'.snoc x
  | .nil, _, _, h => by cases h
  | .cons t .nil, _, _, h => by cases h; rfl
  | .cons t (.cons u r), _, _, h => by
    simp only [Tails.unsnoc] at h
    split at h
    · rename_i hr
      cases h
      rw [Tails.snoc, ← Tails.unsnoc_spec _ _ _ hr]
    · cases h

theorem convS_unparen : ∀ s : S, convS (unparen s) = convS s
  | .named n a ts => by simp [unparen]
  | .sub s .nil => by simp [unparen, convS, applyTails, convS_unparen s]
  | .sub s (.cons t r) => by simp [unparen]

/-- the outermost tail of a shorthand type, redundant parentheses aside, is applied last -/
theorem convS_tail (s s0 : S) (x : Tail) (hu : (unparen s).unsnoc = some (s0, x)) :
    convS s = applyTail (convS s0) x := by
  rw [← convS_unparen s]
  cases hs : unparen s with
  | named _ _ ts | sub _ ts =>
    simp only [hs, S.unsnoc] at hu
    split at hu
    · rename_i h
      cases hu
      rw [Tails.unsnoc_spec ts _ _ h, convS, convS, applyTails_snoc]
    · cases hu

/-- a dimensionality is attached to what the scalar node normalises to -/
theorem norm_gen_dim (cs : CL) (d : D) (hd : d ≠ .scalar) :
    norm (.gen cs d) = withDim (norm (.gen cs .scalar)) (normD d) := by
  cases d with
  | scalar => exact absurd rfl hd
  | _ =>
    simp only [norm, normD]
    generalize normC cs = cs'
    -- the shapes the `match` of `norm` tells apart: a single untagged case against the rest
    rcases cs' with _ | _ | ⟨_ | _, _, _ | _ | _⟩ <;> rfl

theorem norm_single (t : T) (d : D) (hd : d ≠ .scalar) : norm (.gen (single t) d) = withDim (norm t) (normD d) := by
  rw [norm_gen_dim _ _ hd]; simp only [norm, normC, normD, single]

theorem norm_opt (t : T) : norm (.gen (.null none (single t)) .scalar) = .gen (.null none (single (norm t))) .scalar := by
  simp [norm, normC, normD, single]

theorem short_sound_all :
    (∀ (t : Sur) (s : S), isShort t s = true → norm (convS s) = tree t) ∧
    (∀ (ts : SurL) (ss : SL), isShortL ts ss = true → normL (convSL ss) = treeL ts) := by
  apply isShort.mutual_induct
  case case1 =>  -- a name with its type arguments
    intro n args s n' a hu ih h
    simp only [isShort, hu, Bool.and_eq_true, beq_iff_eq] at h
    rw [← convS_unparen s, hu]
    simp [convS, applyTails, norm, tree, ih h.2, h.1]
  case case3 =>  -- `?`
    intro t s s0 hu ih h
    simp only [isShort, hu] at h
    rw [convS_tail s s0 _ hu, applyTail, norm_opt, tree, ih h]
  case case6 =>  -- `*`, `*n`
    intro t len s s0 len' hu ih h
    simp only [isShort, hu, Bool.and_eq_true, beq_iff_eq] at h
    rw [convS_tail s s0 _ hu, applyTail, norm_single _ _ (by nofun), ih h.2, h.1]; simp [normD, tree]
  case case8 =>  -- `[dims]`
    intro t dims s s0 ds hu ih h
    simp only [isShort, hu, Bool.and_eq_true, beq_iff_eq] at h
    rw [convS_tail s s0 _ hu, applyTail, norm_single _ _ (by nofun), ih h.2, h.1]; simp [normD, tree, dimsOpt]
  case case10 =>  -- `->`
    intro k v s s0 sv hu ihk ihv h
    simp only [isShort, hu, Bool.and_eq_true] at h
    rw [convS_tail s s0 _ hu, applyTail, norm_single _ _ (by nofun), ihv h.2, normD, ihk h.1, tree]
  case case12 => intro _; rfl  -- no arguments
  case case13 =>  -- one more argument
    intro t r s r' ih1 ih2 h
    simp only [isShortL, Bool.and_eq_true] at h
    rw [convSL, normL, ih1 h.1, ih2 h.2, treeL]
  all_goals (intros; rename_i h; simp only [isShort, isShortL] at h; cases h)

theorem short_sound (t : Sur) (s : S) (h : isShort t s = true) : norm (convS s) = tree t := short_sound_all.1 t s h

theorem shortL_sound : ∀ (ts : SurL) (ss : SL), isShortL ts ss = true → normL (convSL ss) = treeL ts := short_sound_all.2

/-- an `items:` / `values:` position sees its node as a scalar position does -/
theorem convCases_sem (y : Y) : (convCases y).map (fun cs => norm (.gen cs .scalar)) = sem y := by
  cases y with
  | seq items => simp only [convCases, convY, sem]; cases casesOfSeq items <;> rfl
  | null | str s => rfl
  | generic n a => simp only [convCases, convY, sem]; cases convYL a <;> rfl
  | vector i l | array i l | arrayN i l | stream i => simp only [convCases, convY, sem]; cases convCases i <;> rfl
  | map k v => simp only [convCases, convY, sem]; cases convY k <;> cases convCases v <;> rfl
  | union c => simp only [convCases, convY, sem]; cases convYC c <;> rfl

/-- `y` at a dimensioned position (`items:`, `values:`), against `y` on its own (`sem y`) -/
theorem convCases_dim (y : Y) (d : D) (hd : d ≠ .scalar) :
    (convCases y).map (fun cs => norm (.gen cs d)) = (sem y).map (fun t => withDim t (normD d)) := by
  rw [← convCases_sem y, Option.map_map]
  exact congrArg (Option.map · _) (funext fun cs => norm_gen_dim cs d hd)

theorem sem_vector (i : Y) (l : Option Nat) : sem (.vector i l) = (sem i).map (withDim · (.vector l)) := by
  refine Eq.trans ?_ (convCases_dim i (.vector l) nofun)
  simp only [sem, convY]; cases convCases i <;> rfl

theorem sem_array (i : Y) (d : Option (List Dim)) : sem (.array i d) = (sem i).map (withDim · (.array d)) := by
  refine Eq.trans ?_ (convCases_dim i (.array d) nofun)
  simp only [sem, convY]; cases convCases i <;> rfl

theorem sem_arrayN (i : Y) (n : Nat) :
    sem (.arrayN i n) = (sem i).map (withDim · (.array (some (List.replicate n ⟨none, none⟩)))) :=
  sem_array i _

theorem sem_map (k v : Y) : sem (.map k v) = (sem k).bind fun tk => (sem v).map (withDim · (.map tk)) := by
  simp only [sem, convY]
  cases convY k with
  | none => rfl
  | some tk =>
    refine Eq.trans ?_ (convCases_dim v (.map tk) nofun)
    cases convCases v <;> rfl

theorem casesOfSeq_cons (y : Y) (r : YL) (h : y.isNull = false) :
    casesOfSeq (.cons y r) = (convY y).bind fun t => (casesOfSeq r).map (.cons none t) := by
  -- not unused: `simp only` takes it from the context as the side condition of the third clause, which overlaps the second
  have hy : y = .null → False := fun e => by subst e; cases h
  simp only [casesOfSeq]
  cases convY y <;> cases casesOfSeq r <;> rfl

theorem convYC_cons (tag : String) (y : Y) (r : YC) (h : y.isNull = false) :
    convYC (.cons tag y r) = (convY y).bind fun t => (convYC r).map (.cons (some tag) t) := by
  have hy : y = .null → False := fun e => by subst e; cases h  -- as in `casesOfSeq_cons`
  simp only [convYC]
  cases convY y <;> cases convYC r <;> rfl

theorem nonnull_of_convY (y : Y) (t : T) (h : convY y = some t) : y.isNull = false := by
  cases y <;> simp [Y.isNull]
  simp [convY] at h

theorem norm_union (c : CL) (cs : SurC) (hn : normC c = treeC cs) (hs : cs.isSingleUntagged = false) :
    norm (.gen c .scalar) = tree (.union cs) := by
  simp only [norm, hn, normD, tree]
  -- the same shapes as in `norm_gen_dim`; the single untagged case is excluded by `hs`
  rcases cs with _ | _ | ⟨_ | _, _, _ | _ | _⟩ <;> first | rfl | cases hs

theorem tagged_not_single (cs : SurC) (yc : YC) (h : isTaggedCases cs yc = true) : cs.isSingleUntagged = false := by
  rcases cs with _ | _ | ⟨_ | _, _, _⟩ <;> first | rfl | (cases yc <;> cases h)

theorem spelling_sound_all :
    (∀ (t : Sur) (y : Y), isSpelling t y = true → sem y = some (tree t)) ∧
    (∀ (cs : SurC) (yc : YC), isTaggedCases cs yc = true → (convYC yc).map normC = some (treeC cs)) ∧
    (∀ (cs : SurC) (ys : YL), isSeqCases cs ys = true → (casesOfSeq ys).map normC = some (treeC cs)) ∧
    (∀ (ts : SurL) (ys : YL), isSpellingL ts ys = true → (convYL ys).map normL = some (treeL ts)) := by
  apply isSpelling.mutual_induct
  case case1 =>  -- a shorthand string
    intro t s h
    simp only [isSpelling] at h
    exact congrArg some (short_sound t s h)
  case case2 =>  -- `!generic`
    intro n args n' ys ih h
    simp only [isSpelling, Bool.and_eq_true, beq_iff_eq] at h
    obtain ⟨rfl, h⟩ := h
    obtain ⟨a, ha, hn⟩ := Option.map_eq_some_iff.1 (ih h)
    simp only [sem, convY, ha, Option.map_some, norm, hn, tree]
  case case3 =>  -- `[null, T]`
    intro t y ih h
    simp only [isSpelling] at h
    obtain ⟨ty, hc, hn⟩ := Option.map_eq_some_iff.1 (ih h)
    simp only [sem, convY, casesOfSeq, casesOfSeq_cons y .nil (nonnull_of_convY y ty hc), hc, Option.bind_some, Option.map_some]
    exact congrArg some ((norm_opt ty).trans (by rw [hn]; rfl))
  case case4 =>  -- a sequence of untagged cases
    intro cs ys ih h
    simp only [isSpelling, Bool.and_eq_true, Bool.not_eq_true'] at h
    obtain ⟨c, hc, hn⟩ := Option.map_eq_some_iff.1 (ih h.2)
    simp only [sem, convY, hc, Option.map_some]
    exact congrArg some (norm_union c cs hn h.1)
  case case5 =>  -- `!union`
    intro cs yc ih h
    simp only [isSpelling] at h
    obtain ⟨c, hc, hn⟩ := Option.map_eq_some_iff.1 (ih h)
    simp only [sem, convY, hc, Option.map_some]
    exact congrArg some (norm_union c cs hn (tagged_not_single cs yc h))
  case case6 =>  -- `!vector`
    intro t len items len' ih h
    simp only [isSpelling, Bool.and_eq_true, beq_iff_eq] at h
    obtain ⟨rfl, h⟩ := h
    rw [sem_vector, ih h]; rfl
  case case7 =>  -- `!array` with a list of dimensions
    intro t dims items dims' ih h
    simp only [isSpelling, Bool.and_eq_true, beq_iff_eq] at h
    obtain ⟨rfl, h⟩ := h
    rw [sem_array, ih h]; rfl
  case case8 =>  -- `!array` with a number of dimensions
    intro t dims items n ih h
    simp only [isSpelling, Bool.and_eq_true, beq_iff_eq] at h
    obtain ⟨rfl, h⟩ := h
    rw [sem_arrayN, ih h]; rfl
  case case9 =>  -- `!map`
    intro k v ky vy ihk ihv h
    simp only [isSpelling, Bool.and_eq_true] at h
    rw [sem_map, ihk h.1, ihv h.2]; rfl
  case case11 | case14 | case18 => intro _; rfl  -- the empty lists
  case case12 =>  -- type arguments
    intro t r y r' ih1 ih2 h
    simp only [isSpellingL, Bool.and_eq_true] at h
    obtain ⟨ty, hc, hn⟩ := Option.map_eq_some_iff.1 (ih1 h.1)
    obtain ⟨tl, hl, hn2⟩ := Option.map_eq_some_iff.1 (ih2 h.2)
    simp only [convYL, hc, hl, Option.map_some, normL, hn, hn2, treeL]
  case case15 =>  -- a tagged `null` case
    intro tag r tag' r' ih h
    simp only [isTaggedCases, Bool.and_eq_true, beq_iff_eq] at h
    obtain ⟨rfl, h⟩ := h
    obtain ⟨tl, hl, hn⟩ := Option.map_eq_some_iff.1 (ih h)
    simp only [convYC, hl, Option.map_some, normC, hn, treeC]
  case case16 =>  -- a tagged case
    intro tag t r tag' y r' ih1 ih2 h
    simp only [isTaggedCases, Bool.and_eq_true, beq_iff_eq, Bool.not_eq_true'] at h
    obtain ⟨⟨⟨rfl, hnn⟩, h1⟩, h2⟩ := h
    obtain ⟨ty, hc, hn⟩ := Option.map_eq_some_iff.1 (ih1 h1)
    obtain ⟨tl, hl, hn2⟩ := Option.map_eq_some_iff.1 (ih2 h2)
    simp only [convYC_cons _ y r' hnn, hc, hl, Option.bind_some, Option.map_some, normC, hn, hn2, treeC]
  case case19 =>  -- an untagged `null` case
    intro r r' ih h
    simp only [isSeqCases] at h
    obtain ⟨tl, hl, hn⟩ := Option.map_eq_some_iff.1 (ih h)
    simp only [casesOfSeq, hl, Option.map_some, normC, hn, treeC]
  case case20 =>  -- an untagged case
    intro t r y r' ih1 ih2 h
    simp only [isSeqCases, Bool.and_eq_true, Bool.not_eq_true'] at h
    obtain ⟨⟨hnn, h1⟩, h2⟩ := h
    obtain ⟨ty, hc, hn⟩ := Option.map_eq_some_iff.1 (ih1 h1)
    obtain ⟨tl, hl, hn2⟩ := Option.map_eq_some_iff.1 (ih2 h2)
    simp only [casesOfSeq_cons y r' hnn, hc, hl, Option.bind_some, Option.map_some, normC, hn, hn2, treeC]
  all_goals (intros; rename_i h; simp only [isSpelling, isSpellingL, isSeqCases, isTaggedCases] at h; cases h)

theorem spelling_sound (t : Sur) (y : Y) (h : isSpelling t y = true) : sem y = some (tree t) := spelling_sound_all.1 t y h

theorem taggedCases_sound : ∀ (cs : SurC) (yc : YC), isTaggedCases cs yc = true → (convYC yc).map normC = some (treeC cs) :=
  spelling_sound_all.2.1

theorem seqCases_sound : ∀ (cs : SurC) (ys : YL), isSeqCases cs ys = true → (casesOfSeq ys).map normC = some (treeC cs) :=
  spelling_sound_all.2.2.1

theorem spellingL_sound : ∀ (ts : SurL) (ys : YL), isSpellingL ts ys = true → (convYL ys).map normL = some (treeL ts) :=
  spelling_sound_all.2.2.2

end Yardl.Syntax
