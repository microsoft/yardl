import YardlModel.ProtoFail
import YardlProofs.Proto

namespace Yardl.Proto

theorem runWF_isRun (f) : IsRun f (runWF f) := ⟨fun _ => rfl, fun s a as => by rw [runWF]; cases f s a <;> rfl⟩
theorem runWSF_isRun (f) : IsRun f (runWSF f) := ⟨fun _ => rfl, fun s a as => by rw [runWSF]; cases f s a <;> rfl⟩

theorem cppWF_step (p : Shape) (s : WPos) (op : WOpF) : (specWcppF p s op).map (·.k) = cppWF p s.k op := by
  cases op with
  | op o => exact cppW_step p s o
  | fail i =>
    simp only [specWcppF, cppWF, eq_comm (a := i)]
    split <;> rfl

theorem pyWF_step (p : Shape) (s : WPos) (op : WOpF) (h : WInv p s) :
    (specWpyF p s op).map encW = pyWF p (encW s) op := by
  cases op with
  | op o => exact pyW_step p s o h
  | fail i =>
    obtain ⟨k, o⟩ := s
    unfold WInv at h
    -- as in `pyW_step`: the guards read back, `grind` matches the branches
    simp only [specWpyF, pyWF, encW, enc_eq_even, enc_eq_odd, enc_eq_pred, apply_ite (Option.map encW), Option.map_some, Option.map_none] at *
    grind

theorem pyWF_inv (p : Shape) (s : WPos) (op : WOpF) (h : WInv p s) : ∀ s', specWpyF p s op = some s' → WInv p s' := by
  cases op with
  | op o => exact pyW_inv p s o h
  | fail i =>
    obtain ⟨k, o⟩ := s
    unfold WInv at *
    intro s'
    simp only [specWpyF] at *
    grind

/-- after a failed write that ended the previous stream implicitly the position is "ready for step i", not "inside stream i-1",
    and that stream cannot be written to again -/
theorem failed_write_keeps_the_implicit_end (p : Shape) (s s' : WPos) (i : Nat) (hi : i = s.k + 1) (ho : s.openS = true)
    (h : specWpyF p s (.fail i) = some s') :
    s' = ⟨i, false⟩ ∧ specWpyF p s' (.op (.write s.k)) = none := by
  obtain ⟨k, o⟩ := s
  simp only at hi ho
  subst hi ho
  -- the failing call is accepted only as the step after the open stream `k`, and leaves the position "ready for step k + 1"
  obtain ⟨_, rfl⟩ : k + 1 < p.length ∧ (⟨k + 1, false⟩ : WPos) = s' := by simpa [specWpyF] using h
  simp [specWpyF, specWpy]

end Yardl.Proto
