import YardlProofs.WireStream

/-!
# C15 — Readers refuse streams of a different schema or format

`decHeader` is the reference header reader; `accept allowed` is the reader's decision (own schema,
plus registered previous versions for C++). The generated readers are tied to it by
`checks/c15.py` (cross-feeding streams between near-identical protocols; systematic header
corruption) — they must raise before returning any value whenever `accept` says no.
-/

namespace Yardl.C15

/-- The reader's decision: the header is well-formed and carries an allowed schema. -/
def accept (allowed : List Bytes) (bs : Bytes) : Option (Bytes × Bytes) :=
  match decHeader bs with
  | none => none
  | some (schema, body) => if schema ∈ allowed then some (schema, body) else none

theorem own_stream_accepted (allowed : List Bytes) (schema body : Bytes) (h : schema ∈ allowed) :
    accept allowed (encHeader schema ++ body) = some (schema, body) := by
  simp [accept, decHeader_encHeader, h]

theorem foreign_schema_refused (allowed : List Bytes) (schema body : Bytes) (h : schema ∉ allowed) :
    accept allowed (encHeader schema ++ body) = none := by
  simp [accept, decHeader_encHeader, h]

/-- Headers are self-delimiting: a stream determines its schema and where the body starts. -/
theorem header_injective (s₁ s₂ b₁ b₂ : Bytes) (h : encHeader s₁ ++ b₁ = encHeader s₂ ++ b₂) :
    s₁ = s₂ ∧ b₁ = b₂ :=
  inj_of_round_trip decHeader_encHeader h

theorem bad_magic_refused (bs m r : Bytes) (h : takeN 5 bs = some (m, r)) (hm : m ≠ magic) :
    decHeader bs = none := by
  simp [decHeader, h, hm]

theorem short_header_refused (bs : Bytes) (h : takeN 5 bs = none) : decHeader bs = none := by
  simp [decHeader, h]

theorem bad_version_refused (bs r r' : Bytes) (v : Nat) (h : takeN 5 bs = some (magic, r))
    (hv : decLE 4 r = some (v, r')) (hne : v ≠ 1) : decHeader bs = none := by
  simp [decHeader, h, hv, hne]

/-- Whatever `accept` returns is what `decHeader` found: nothing is decoded from a refused stream. -/
theorem accept_sound (allowed : List Bytes) (bs schema body : Bytes)
    (h : accept allowed bs = some (schema, body)) : decHeader bs = some (schema, body) ∧ schema ∈ allowed := by
  unfold accept at h
  split at h
  · cases h
  · split at h <;> cases h
    exact ⟨‹_›, ‹_›⟩

example : accept [[0x7b, 0x7d]] (encHeader [0x7b, 0x7d] ++ [1, 2, 3]) = some ([0x7b, 0x7d], [1, 2, 3]) :=
  own_stream_accepted _ _ _ (by simp)

end Yardl.C15
