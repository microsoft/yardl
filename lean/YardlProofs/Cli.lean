import YardlModel.Cli

/-! `runFrom` stops at the first failing call whose error is returned: if no call up to there writes, the file system is as it was. -/

namespace Yardl.Cli

/-- If none of the calls up to and including call `k` writes, call `k` fails, and every one of them that fails has its
    error returned, then nothing is written and the command fails — whatever the other calls do. -/
theorem runFrom_stops (fails : Nat → Bool) (effect : Nat → FS → FS) :
    ∀ (cs : List Call) (i k : Nat) (fs : FS), k < cs.length →
      (∀ j, j ≤ k → ∀ cj, cs[j]? = some cj → cj.writes = false ∧ (fails (i + j) = true → cj.errReturned = true)) →
      fails (i + k) = true → runFrom fails effect i cs fs = (fs, false)
  | [], _, _, _, hk, _, _ => by simp at hk
  | c :: cs, i, k, fs, hk, h, hfail => by
    obtain ⟨hw, hr⟩ := h 0 (Nat.zero_le k) c rfl
    rw [Nat.add_zero] at hr
    simp only [runFrom, hw, Bool.false_eq_true, if_false]
    cases k with
    | zero => rw [Nat.add_zero] at hfail; simp [hfail, hr hfail]
    | succ k =>
      have ih := runFrom_stops fails effect cs (i + 1) k fs (by simpa using hk)
        (fun j hj cj hcj => by simpa [Nat.add_assoc, Nat.add_comm 1 j] using h (j + 1) (by omega) cj (by simpa using hcj))
        (by simpa [Nat.add_assoc, Nat.add_comm 1 k] using hfail)
      by_cases hf : fails i = true
      · simp [hf, hr hf]
      · simp [hf, ih]

end Yardl.Cli
