import YardlProofs.EvolutionRefl

/-!
  YardlProofs.EvolutionClasses — the general facts behind the documented classes of schema changes
  (docs/cpp/evolution.md), which Props/C06.lean states for every well-formed type / protocol. In the order of the model:
  primitives (once two types differ, the verdict depends on their kinds only); records (a warning exactly when a field
  that is not nullable came or went, however many fields moved — for records whose fields mention no other definition,
  so that the verdict does not depend on what else the two versions define); unions (a case added or removed at the end;
  cases permuted: the greedy matching finds every case its own counterpart); protocol steps.
-/

namespace Yardl.Evo
open Yardl

theorem eq_string_iff (p : Prim) : p = .string ↔ pkind p = .string := by
  cases p <;> simp [pkind]

/-- detectPrimitiveTypeChange on the kinds of two different types -/
def kindChange (new old : PKind) : Cls :=
  if old = .string && new.isNumber then .warn
  else if old.isNumber && (new = .string || new.isNumber) then .warn
  else if old = .complex && new = .complex then .warn
  else .error

theorem primChange_of_ne {a b : Prim} (h : a ≠ b) : primChange a b = kindChange (pkind a) (pkind b) := by
  simp only [primChange, kindChange, if_neg h, eq_string_iff]

mutual
  /-- the type mentions no other definition (primitives and containers of them): the record classes are stated for
      records of such fields, so that the verdict does not depend on what else the two versions define -/
  def defFree : ETy → Bool
    | .prim _ => true
    | .optional t => defFree t
    | .union cs => defFreeC cs
    | .vector t _ => defFree t
    | .array t _ => defFree t
    | .map k v => defFree k && defFree v
    | _ => false
  def defFreeC : ECases → Bool
    | .nil => true
    | .null r => defFreeC r
    | .cons t r => defFree t && defFreeC r
end

theorem foldl_max_warn {α : Type} (g : α → Sev) (p : α → Bool) : ∀ (l : List α) (acc : Sev),
    (∀ x ∈ l, g x = if p x then .warn else .ok) →
    l.foldl (fun a x => a.max (g x)) acc = acc.max (if l.any p then .warn else .ok)
  | [], acc, _ => by simp [Sev.max_ok_right]
  | x :: r, acc, h => by
    rw [List.foldl_cons, foldl_max_warn g p r _ (fun y hy => h y (by simp [hy])), h x (by simp), List.any_cons]
    cases acc <;> cases p x <;> cases r.any p <;> rfl

theorem foldl_max_ok {α : Type} (g : α → Sev) : ∀ (l : List α) (acc : Sev), (∀ x ∈ l, g x = .ok) →
    l.foldl (fun a x => a.max (g x)) acc = acc := fun l acc h => by
  simpa [Sev.max_ok_right] using foldl_max_warn g (fun _ => false) l acc (by simpa using h)

theorem defFreeC_mem : ∀ (cs : ECases) (t : ETy), some t ∈ cs.toList → defFreeC cs = true → defFree t = true
  | .nil, _, h, _ => by simp [ECases.toList] at h
  | .null r, t, h, hd => by
    simp only [ECases.toList, List.mem_cons, reduceCtorEq, false_or] at h
    exact defFreeC_mem r t h (by simpa [defFreeC] using hd)
  | .cons u r, t, h, hd => by
    simp only [ECases.toList, List.mem_cons, Option.some.injEq] at h
    simp only [defFreeC, Bool.and_eq_true] at hd
    rcases h with rfl | h
    · exact hd.1
    · exact defFreeC_mem r t h hd.2

section
variable (env : Env) (fuel : Nat)

theorem defsSev_union (cs : ECases) :
    defsSev env (fuel + 1) (.union cs) = cs.toList.foldl (fun acc c => match c with
      | some t => acc.max (defsSev env fuel t)
      | none => acc) .ok := rfl

theorem defsSev_record (n : Nat) (fs : EFields) :
    defsSev env (fuel + 1) (.record n fs) =
      fs.toList.foldl (fun acc e => acc.max (defsSev env fuel e.2))
        (match env.find n with
         | some (.record _ fs') => recordSev (cmp (depth (.record n fs') + depth (.record n fs))) fs'.toList fs.toList
         | _ => .ok) := rfl

end

/-- a type that mentions no definition emits no definition-level message -/
theorem defsSev_defFree (env : Env) : ∀ (fuel : Nat) (t : ETy), defFree t = true → defsSev env fuel t = .ok
  | 0, _, _ => rfl
  | fuel + 1, .prim _, _ => rfl
  | fuel + 1, .optional t, h | fuel + 1, .vector t _, h | fuel + 1, .array t _, h => defsSev_defFree env fuel t h
  | fuel + 1, .map k v, h => by
    simp only [defFree, Bool.and_eq_true] at h
    show (defsSev env fuel k).max (defsSev env fuel v) = .ok
    rw [defsSev_defFree env fuel k h.1, defsSev_defFree env fuel v h.2]
    exact sev_max_ok
  | fuel + 1, .union cs, h => by
    simp only [defFree] at h
    -- a null case adds nothing: the fold is one of `foldl_max_ok`'s shape
    have e : (fun (acc : Sev) (c : Option ETy) => match c with
          | some t => acc.max (defsSev env fuel t)
          | none => acc)
        = fun acc c => acc.max (match c with | some t => defsSev env fuel t | none => .ok) := by
      funext acc c
      cases c <;> simp only [Sev.max_ok_right]
    rw [defsSev_union, e]
    exact foldl_max_ok _ _ _ fun c hc => by
      cases c with
      | none => rfl
      | some t => exact defsSev_defFree env fuel t (defFreeC_mem cs t hc h)
  | fuel + 1, .enum _ _ _ _, h | fuel + 1, .record _ _, h | fuel + 1, .tparam _, h | fuel + 1, .inst _ _ _, h => by
    simp [defFree] at h

theorem namesDistinct_append_fresh (fs : List (Nat × ETy)) (x : Nat × ETy) (hd : namesDistinct fs = true)
    (hfresh : ∀ e ∈ fs, e.1 ≠ x.1) : namesDistinct (fs ++ [x]) = true := by
  rw [namesDistinct_iff] at hd ⊢
  exact List.pairwise_append.mpr ⟨hd, List.pairwise_singleton .., fun a ha b hb => by
    rw [List.mem_singleton.mp hb]; exact hfresh a ha⟩

/-- of the fields of the extended record, only the added one is missing from the original (`q` as in `none_missing`) -/
theorem missing_of_extended (fs : List (Nat × ETy)) (n : Nat) (t : ETy) (hd : namesDistinct fs = true)
    (hfresh : ∀ e ∈ fs, e.1 ≠ n) (q : Nat × ETy → Bool) :
    ((fs ++ [(n, t)]).any fun e => (lookupField fs e.1).isNone && q e) = q (n, t) := by
  simp [List.any_append, none_missing hd (fun _ h => h) q, lookupField_none_of_fresh fs n hfresh]

theorem recordOldChanged_of_missing (f : ETy → ETy → Cls) (new : List (Nat × ETy)) {e : Nat × ETy}
    (hnone : lookupField new e.1 = none) : ∀ (l : List (Nat × ETy)) (i : Nat), e ∈ l → recordOldChanged f new l i = true
  | (n, t) :: l, i, he => by
    rcases List.mem_cons.mp he with rfl | he
    · simp [recordOldChanged, hnone]
    · simp [recordOldChanged, recordOldChanged_of_missing f new hnone l (i + 1) he]

theorem recordChange_of_missing (f : ETy → ETy → Cls) {new old : List (Nat × ETy)}
    (h : (∃ e ∈ new, lookupField old e.1 = none) ∨ ∃ e ∈ old, lookupField new e.1 = none) :
    recordChange f new old = .defChanged := by
  have : (new.any fun e => (lookupField old e.1).isNone) = true ∨ recordOldChanged f new old 0 = true :=
    h.imp (fun ⟨e, he, hn⟩ => List.any_eq_true.mpr ⟨e, he, by simp [hn]⟩)
      (fun ⟨e, he, hn⟩ => recordOldChanged_of_missing f new hn old 0 he)
  rcases this with h | h <;> simp [recordChange, h]

/-- the messages for two versions of a record whose kept fields are unchanged: a warning exactly when a field that is
    not nullable was added or removed — whatever the order, however many fields came or went -/
theorem recordSev_of_kept (f : ETy → ETy → Cls) (new old : List (Nat × ETy)) (hdn : namesDistinct new = true)
    (hkept : ∀ e ∈ old, e ∈ new ∨ lookupField new e.1 = none) (hf : ∀ e ∈ old, e ∈ new → f e.2 e.2 = .same) :
    recordSev f new old =
      if (new.any fun e => (lookupField old e.1).isNone && !isNullable e.2) ||
         (old.any fun e => (lookupField new e.1).isNone && !isNullable e.2) then .warn else .ok := by
  unfold recordSev
  rw [foldl_max_warn _ (fun e => (lookupField new e.1).isNone && !isNullable e.2) old _ (fun e he => by
    rcases hkept e he with h | h
    · simp [lookupField_of_mem hdn h, hf e he h, Cls.sev]
    · cases isNullable e.2 <;> simp [h])]
  cases (new.any fun e => (lookupField old e.1).isNone && !isNullable e.2) <;>
    cases (old.any fun e => (lookupField new e.1).isNone && !isNullable e.2) <;> rfl

/-- the inverse of `EFields.toList`, so that statements can quantify over lists of fields -/
def fieldsOfList : List (Nat × ETy) → EFields
  | [] => .nil
  | (n, t) :: r => .cons n t (fieldsOfList r)

@[simp] theorem toList_fieldsOfList : ∀ (l : List (Nat × ETy)), (fieldsOfList l).toList = l
  | [] => rfl
  | (n, t) :: r => by simp [fieldsOfList, EFields.toList, toList_fieldsOfList r]

theorem fieldsOfList_wfF : ∀ (l : List (Nat × ETy)), (∀ e ∈ l, wfT e.2 = true) → wfF (fieldsOfList l) = true
  | [], _ => rfl
  | (n, t) :: r, h => by
    simp only [fieldsOfList, wfF, Bool.and_eq_true]
    exact ⟨h (n, t) (by simp), fieldsOfList_wfF r (fun e he => h e (by simp [he]))⟩

/-- a step whose record changed, the old fields mentioning no other definition: unless the comparison finds the
    record unchanged, the verdict is that of the record's own messages. `K` is the fuel the step comparison leaves for
    the field types: all the users need of it is that it covers both field lists. -/
theorem record_step_verdict (r : Nat) (new old : List (Nat × ETy)) (hdf : ∀ e ∈ old, defFree e.2 = true) :
    ∃ K, depthF (fieldsOfList new) ≤ K ∧ depthF (fieldsOfList old) ≤ K ∧
      stepVerdict [(r, .record r (fieldsOfList new))] (.record r (fieldsOfList new)) (.record r (fieldsOfList old)) =
        if recordChange (cmp K) new old = .same then .ok else recordSev (cmp (K + 1)) new old := by
  obtain ⟨K, h1, h2, hk⟩ : ∃ K, depthF (fieldsOfList new) ≤ K ∧ depthF (fieldsOfList old) ≤ K ∧
      depth (.record r (fieldsOfList new)) + depth (.record r (fieldsOfList old)) = K + 1 :=
    ⟨depthF (fieldsOfList new) + depthF (fieldsOfList old) + 1, by omega, by omega, by simp only [depth]; omega⟩
  refine ⟨K, h1, h2, ?_⟩
  unfold stepVerdict
  rw [hk, cmp_record, if_pos rfl, toList_fieldsOfList, toList_fieldsOfList]
  have hc : recordChange (cmp K) new old = .same ∨ recordChange (cmp K) new old = .defChanged := by
    unfold recordChange
    split <;> simp
  rcases hc with h | h
  · simp [h]
  · have hfind : Env.find [(r, ETy.record r (fieldsOfList new))] r = some (.record r (fieldsOfList new)) := by
      simp [Env.find]
    simp only [h, reduceCtorEq, if_false, Cls.sev, Sev.max_ok_left, defsSev_record, hfind, hk, toList_fieldsOfList]
    exact foldl_max_ok _ old _ (fun e he => defsSev_defFree _ _ e.2 (hdf e he))

/-- `cmp_self` at every field type of a record given as a list, at any fuel that the step comparison uses -/
theorem cmp_self_field {l : List (Nat × ETy)} (hw : ∀ e ∈ l, wfT e.2 = true) {K : Nat} (hK : depthF (fieldsOfList l) ≤ K) :
    ∀ e ∈ l, cmp K e.2 e.2 = .same := by
  simpa using forall_fields (cmp_self K) (fieldsOfList_wfF l hw) hK

/-- a type that is neither an optional / union nor a vector / array / map -/
def plainScalar (t : ETy) : Bool := !isDim t && !isScalarGen t

theorem findMatch_none_all_matched (f : ETy → ETy → Cls) (c : Option ETy) :
    ∀ (os : List (Option ETy)) (j : Nat), findMatch f c os (List.replicate os.length true) j = none
  | [], _ => by simp [findMatch]
  | o :: os, j => by
    simp only [List.length_cons, List.replicate_succ, findMatch, if_true]
    exact findMatch_none_all_matched f c os (j + 1)

/-- the inverse of `ECases.toList`, so that statements can quantify over lists of cases -/
def casesOfList : List (Option ETy) → ECases
  | [] => .nil
  | none :: r => .null (casesOfList r)
  | some t :: r => .cons t (casesOfList r)

@[simp] theorem toList_casesOfList : ∀ (l : List (Option ETy)), (casesOfList l).toList = l
  | [] => rfl
  | none :: r | some _ :: r => by simp [casesOfList, ECases.toList, toList_casesOfList r]

theorem cmpCase_self_of_wf (fuel : Nat) (l : List (Option ETy)) (hw : ∀ t, some t ∈ l → wfT t = true ∧ depth t ≤ fuel) :
    ∀ x ∈ l, cmpCase (cmp fuel) x x = .same :=
  cmpCase_self (cmp fuel) fun t ht => cmp_self fuel t (hw t ht).1 (hw t ht).2

/-- adding a case at the end of a union type is accepted with a warning, and so is removing the last one -/
theorem union_case_added_or_removed (fuel : Nat) (l : List (Option ETy)) (c : Option ETy) (hne : l ≠ [])
    (hw : ∀ t, some t ∈ l → wfT t = true ∧ depth t ≤ fuel) :
    cmp (fuel + 1) (.union (casesOfList (l ++ [c]))) (.union (casesOfList l)) = .warn ∧
    cmp (fuel + 1) (.union (casesOfList l)) (.union (casesOfList (l ++ [c]))) = .warn := by
  have hs := cmpCase_self_of_wf fuel l hw
  -- the common cases match themselves; the added case then finds every old case taken, the removed one stays unmatched
  have ha := unionLoop_common (cmp fuel) l [c] [] hs
  have hr := unionLoop_common (cmp fuel) l [] [c] hs
  simp only [List.append_nil, List.map_nil, unionLoop, findMatch_none_all_matched] at ha hr
  constructor
  · rw [cmp_union, toList_casesOfList, toList_casesOfList, unionChange, ha]
    simp [hne]
  · rw [cmp_union, toList_casesOfList, toList_casesOfList, unionChange, hr]
    simp [hne]

/-- cases at different positions never match one another (the validator rejects duplicate case types) -/
def NoCross (f : ETy → ETy → Cls) (olds : List (Option ETy)) : Prop :=
  ∀ (i j : Nat) (a b : Option ETy), olds[i]? = some a → olds[j]? = some b → i ≠ j → (cmpCase f a b).matches = false

/-- what the greedy matching has done once the new cases `P` are through, when cases at different places never match:
    exactly the places of `P` are taken, every case of `P` was matched, no definition counts as changed -/
structure PermInv (olds P : List (Option ETy)) (st : UState) : Prop where
  len : st.oldMatches.length = olds.length
  free : ∀ (j : Nat) (o : Option ETy), olds[j]? = some o → o ∉ P → st.oldMatches[j]? = some false
  taken : ∀ (j : Nat) (o : Option ETy), olds[j]? = some o → o ∈ P → st.oldMatches[j]? = some true
  news : st.newMatches = List.replicate P.length true
  defs : st.defsChanged = false

/-- one round of the loop: a case not seen yet takes its own place -/
theorem PermInv.step {f : ETy → ETy → Cls} {olds P : List (Option ETy)} {st : UState} (hnd : olds.Nodup)
    (hnc : NoCross f olds) (h : PermInv olds P st) {c : Option ETy} (hc : c ∈ olds) (hcP : c ∉ P)
    (hself : cmpCase f c c = .same) (R : List (Option ETy)) (i : Nat) :
    ∃ st', unionLoop f olds (c :: R) i st = unionLoop f olds R (i + 1) st' ∧ PermInv olds (P ++ [c]) st' := by
  obtain ⟨j, hj⟩ := List.getElem?_of_mem hc
  have hjlt : j < st.oldMatches.length := h.len ▸ (List.getElem?_eq_some_iff.mp hj).1
  have hfm := findMatch_at f c hself olds st.oldMatches j 0 hj (h.free j c hj hcP)
    (fun k hk o ho => Or.inr (hnc j k c o hj ho (by omega)))
  rw [Nat.zero_add] at hfm
  refine ⟨{ oldMatches := setTrue st.oldMatches j, newMatches := true :: st.newMatches,
            reordered := st.reordered || i != j, defsChanged := st.defsChanged || Cls.same == Cls.defChanged },
    by simp only [unionLoop, hfm], ?_, ?_, ?_, ?_, ?_⟩
  · simp [setTrue_eq_set, h.len]
  · intro k o ho hoP
    have hkj : j ≠ k := fun e => hoP (by rw [← e, hj] at ho; simp [Option.some.inj ho])
    rw [setTrue_eq_set, List.getElem?_set_ne hkj]
    exact h.free k o ho (fun hp => hoP (List.mem_append_left _ hp))
  · intro k o ho hoP
    by_cases hkj : j = k
    · rw [← hkj, setTrue_eq_set, List.getElem?_set_self hjlt]
    · rw [setTrue_eq_set, List.getElem?_set_ne hkj]
      rcases List.mem_append.mp hoP with hp | hp
      · exact h.taken k o ho hp
      · -- `o` is `c`, which stands at `j` only
        rw [List.mem_singleton.mp hp] at ho
        exact absurd ((List.getElem?_inj (List.getElem?_eq_some_iff.mp hj).1 hnd).mp (hj.trans ho.symm)) hkj
  · simp [h.news, List.replicate_succ]
  · simp [h.defs]

/-- the greedy matching on a permutation: every case finds its own counterpart -/
theorem unionLoop_perm {f : ETy → ETy → Cls} {olds : List (Option ETy)} (hnd : olds.Nodup) (hnc : NoCross f olds)
    (hself : ∀ x ∈ olds, cmpCase f x x = .same) :
    ∀ (R P : List (Option ETy)) (st : UState) (i : Nat), (P ++ R).Nodup → (∀ x ∈ R, x ∈ olds) → PermInv olds P st →
      PermInv olds (P ++ R) (unionLoop f olds R i st)
  | [], P, st, _, _, _, h => by simpa [unionLoop] using h
  | c :: R, P, st, i, hnd2, hsub, h => by
    have hc := hsub c (by simp)
    obtain ⟨st', hst, h'⟩ := h.step hnd hnc hc (fun hp => (List.nodup_append.mp hnd2).2.2 c hp c (by simp) rfl) (hself c hc) R i
    have := unionLoop_perm hnd hnc hself R (P ++ [c]) st' (i + 1) (by simpa using hnd2) (fun x hx => hsub x (by simp [hx])) h'
    rw [hst]
    simpa using this

/-- reordering the cases of a union emits no message (documented: compatible), whatever the permutation -/
theorem union_cases_reordered (f : ETy → ETy → Cls) (news olds : List (Option ETy)) (hp : news.Perm olds) (hne : olds ≠ [])
    (hnd : olds.Nodup) (hnc : NoCross f olds) (hself : ∀ x ∈ olds, cmpCase f x x = .same) :
    (unionChange f news olds).sev = .ok := by
  have h := unionLoop_perm hnd hnc hself news [] ⟨olds.map fun _ => false, [], false, false⟩ 0
    (by simpa using hp.symm.nodup hnd) (fun x hx => hp.mem_iff.mp hx)
    ⟨by simp, fun j o ho _ => by simp [List.getElem?_map, ho], fun _ _ _ ho => by simp at ho, rfl, rfl⟩
  rw [List.nil_append] at h
  have hne' : news.length ≠ 0 := by rw [hp.length_eq]; simpa using hne
  have hall : (unionLoop f olds news 0 ⟨olds.map fun _ => false, [], false, false⟩).oldMatches.all id = true := by
    simp only [List.all_eq_true, id]
    intro b hb
    obtain ⟨j, hj⟩ := List.getElem?_of_mem hb
    have hlt : j < olds.length := h.len ▸ (List.getElem?_eq_some_iff.mp hj).1
    have := h.taken j olds[j] (List.getElem?_eq_getElem hlt) (hp.mem_iff.mpr (List.getElem_mem hlt))
    exact Option.some.inj (hj.symm.trans this)
  -- everything is matched and no definition changed; whether `reordered` is set does not matter: `.silent` and `.same`
  -- both have `sev = .ok`
  unfold unionChange
  simp only [h.news, hall, h.defs, List.any_replicate, List.all_replicate, hne', if_false, id, Bool.not_true, Bool.and_self,
    Bool.false_eq_true, Bool.or_false]
  split <;> rfl

theorem protoLoop_err (env : Env) (old : List EStep) : ∀ (l : List EStep) (e : Nat), protoLoop env old l e .err = .err
  | [], _ => rfl
  | s :: r, e => by
    unfold protoLoop
    cases findStep old s.name with
    | none => simp only [Sev.max_err_left]; exact protoLoop_err env old r e
    | some p => simp only [Sev.max_err_left]; exact protoLoop_err env old r (e + 1)

theorem findStep_none_of_fresh (l : List EStep) (n : Nat) (h : ∀ s ∈ l, s.name ≠ n) : findStep l n = none := by
  simp only [findStep, (List.find?_key_fresh (fun s : EStep => s.name) h).2]

theorem stepNamesDistinct_insert_fresh (pre suf : List EStep) (s : EStep) (hd : stepNamesDistinct (pre ++ suf) = true)
    (hfresh : ∀ x ∈ pre ++ suf, x.name ≠ s.name) : stepNamesDistinct (pre ++ s :: suf) = true := by
  rw [stepNamesDistinct_iff] at hd ⊢
  exact (List.pairwise_middle Ne.symm).mpr (List.pairwise_cons.mpr ⟨fun x hx => (hfresh x hx).symm, hd⟩)

end Yardl.Evo
