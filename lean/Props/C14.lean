import YardlProofs.Plan

/-!
# C14 — All target languages follow the same serialization plan

The plan of a resolved type is `Plan.erase t`: the composition of element encodings (field order,
fixed lengths, array kinds/ranks/shapes, map key/value encodings, enum base types, union case order,
null handling) with all names forgotten.

Proved here, for every type:
* `bytes_depend_on_plan_only` — encoder and decoder are functions of the plan: two types with the same
  plan are laid out identically.
* `every_backend_denotes_the_plan` — the serializer expression each back end's recursive
  type → serializer mapping prints (`Plan.emit`, for every `Plan.Backend`: Python binary, MATLAB
  binary, Python NDJSON, and `cppBinary`, the template compositions of the generated C++),
  read under that back end's runtime constructor conventions (`Plan.denote`), is the plan; MATLAB's
  reversed fixed-array shape is the same row-major plan (`matlab_fixed_shape_is_reversed`).
* `backends_agree` — any two back ends' expressions for a type denote the same plan;
  `written_by_one_read_by_other` — so what one writes by its plan the other reads back by its own,
  and leaves what follows in the stream.
* `expression_difference_is_plan_difference` — `denote` is injective up to the annotations that do
  not affect layout, so comparing printed expressions never flags two expressions with equal plans.

Tie (`checks/c14.py`): the expressions are *parsed out of freshly generated code* (Python `binary.py`,
`ndjson.py` by `ast`; MATLAB `+binary/*.m` by a small expression parser), record serializer classes
are expanded, and each protocol step / record field is compared with `Plan.emit` of the resolved type
(and, through C01–C03, the C++ and Python code is *run* against `enc`/`dec` of the same types).
-/

namespace Yardl.C14
open Yardl Yardl.Plan

theorem bytes_depend_on_plan_only (t₁ t₂ : Ty) (h : erase t₁ = erase t₂) :
    (∀ v, enc t₁ v = enc t₂ v) ∧ (∀ bs, dec t₁ bs = dec t₂ bs) := by
  constructor
  · intro v; rw [← enc_erase t₁, ← enc_erase t₂, h]
  · intro bs; rw [← dec_erase t₁, ← dec_erase t₂, h]

theorem every_backend_denotes_the_plan (b : Backend) (t : Ty) : denote b (emit b t) = some (erase t) :=
  denote_emit b t

theorem backends_agree (b₁ b₂ : Backend) (t : Ty) : denote b₁ (emit b₁ t) = denote b₂ (emit b₂ t) := by
  rw [denote_emit, denote_emit]

/-- what one back end writes (according to the plan its expression denotes) every other back end
    reads back as the same value, leaving the rest of the stream untouched -/
theorem written_by_one_read_by_other (b₁ b₂ : Backend) (t : Ty) (v : Val) (rest : Bytes) (hv : HasType t v = true) :
    ∃ p₁ p₂, denote b₁ (emit b₁ t) = some p₁ ∧ denote b₂ (emit b₂ t) = some p₂ ∧
      dec p₂ (enc p₁ v ++ rest) = some (v, rest) := by
  refine ⟨erase t, erase t, denote_emit b₁ t, denote_emit b₂ t, ?_⟩
  rw [enc_erase, dec_erase]
  exact dec_enc t v rest hv

theorem matlab_fixed_shape_is_reversed :
    emit .matlabBinary (.array (.prim .int8) (.fixed [2, 3])) = .fixedNdarray (.prim .int8) [3, 2] ∧
    emit .pyBinary (.array (.prim .int8) (.fixed [2, 3])) = .fixedNdarray (.prim .int8) [2, 3] ∧
    denote .matlabBinary (.fixedNdarray (.prim .int8) [3, 2]) = denote .pyBinary (.fixedNdarray (.prim .int8) [2, 3]) := by
  simp [emit, denote, Backend.reversesFixedDims]

/-- a deviation is visible: an expression with the optional collapsed denotes a different plan -/
theorem collapsed_optional_is_a_different_plan (b : Backend) (e : SE) (p : Ty) (h : denote b e = some p) :
    denote b (.optional (.optional e)) ≠ denote b (.optional e) := by
  simp only [denote, h]
  intro hc
  -- occurs check: `.optional t = t` is impossible, a term is larger than its part
  have := congrArg sizeOf hc
  simp at this

theorem expression_difference_is_plan_difference (b : Backend) (e₁ e₂ : SE) (p : Ty)
    (h₁ : denote b e₁ = some p) (h₂ : denote b e₂ = some p) : strip e₁ = strip e₂ := by
  rw [strip_of_denote b e₁ p h₁, strip_of_denote b e₂ p h₂]

/-- non-vacuity: a nested shape with every constructor -/
example : denote .matlabBinary (emit .matlabBinary
    (.record (.cons "a" (.union true (.cons "x" (.vector (.prim .int32) (some 3)) (.cons "y" (.map (.prim .string) (.enum .uint16 true [("A", 1)])) .nil)))
      (.cons "b" (.optional (.optional (.array (.prim .float32) (.fixed [2, 3])))) .nil))))
    = some (.record (.cons "" (.union true (.cons "" (.vector (.prim .int32) (some 3)) (.cons "" (.map (.prim .string) (.enum .uint16 false [])) .nil)))
      (.cons "" (.optional (.optional (.array (.prim .float32) (.fixed [2, 3])))) .nil))) := by
  simp [emit, emitF, denote, denoteF, Backend.reversesFixedDims]

end Yardl.C14
