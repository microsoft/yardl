import YardlProofs.EvolutionRefl

/-!
  Converting a value between two identical well-formed types leaves it unchanged (`conv_self`): records field by field
  (`convFields_ok`: record conversion is `convField` on every destination field), unions through the greedy
  self-matching (`unionPairs_self`: the diagonal). The equations `conv_*` stand in one block, behind `kcmp`.
-/

namespace Yardl.Evo
open Yardl

theorem fitsF_iff : ∀ (fs : EFields) (vs : List Val),
    fitsF fs vs = true ↔ vs.length = fs.toList.length ∧ ∀ p ∈ fs.toList.zip vs, fitsT p.1.2 p.2 = true
  | .nil, [] | .nil, _ :: _ | .cons _ _ _, [] => by simp [fitsF, EFields.toList]
  | .cons _ t r, v :: vs => by simp [fitsF, EFields.toList, fitsF_iff r vs, and_left_comm]

theorem fitsC_get : ∀ (cs : ECases) (j : Nat) (x : Val), fitsC cs j x = true →
    ∃ t, cs.toList[j]? = some (some t) ∧ fitsT t x = true
  | .nil, _, _, h => by simp [fitsC] at h
  | .null r, 0, _, h => by simp [fitsC] at h
  | .cons t r, 0, x, h => by
    simp only [fitsC] at h
    exact ⟨t, by simp [ECases.toList], h⟩
  | .null r, j + 1, x, h | .cons _ r, j + 1, x, h => by
    simp only [fitsC] at h
    obtain ⟨t, ht, hf⟩ := fitsC_get r j x h
    exact ⟨t, by simpa [ECases.toList] using ht, hf⟩

/-- what `convFields` does with one destination field: the converted value of the source field of that name, or
    the zero value when there is none -/
def convField (c : ETy → ETy → Val → CRes) (svals : List ((Nat × ETy) × Val)) (d : Nat × ETy) : CRes :=
  match svals.find? (fun e => e.1.1 == d.1) with
  | some ((_, st), sv) => c st d.2 sv
  | none => .ok (zero (depth d.2 + 1) d.2)

/-- `convFields` is `convField` on every destination field, in order; `dw` pairs the fields with their results -/
theorem convFields_ok (c : ETy → ETy → Val → CRes) (svals : List ((Nat × ETy) × Val)) :
    ∀ (dw : List ((Nat × ETy) × Val)) (acc : List Val), (∀ p ∈ dw, convField c svals p.1 = .ok p.2) →
      convFields c svals (dw.map (·.1)) acc = .ok (.record (acc.reverse ++ dw.map (·.2)))
  | [], acc, _ => by simp [convFields]
  | ((n, dt), w) :: r, acc, h => by
    have hw : convField c svals (n, dt) = .ok w := h ((n, dt), w) (by simp)
    have ih := convFields_ok c svals r (w :: acc) (fun p hp => h p (by simp [hp]))
    simp only [convField] at hw
    simp only [List.map_cons, convFields]
    split at hw
    · next heq => simp [heq, hw, ih]
    · next heq => simp only [CRes.ok.injEq] at hw; simp [heq, hw, ih]

theorem convField_absent (c : ETy → ETy → Val → CRes) (svals : List ((Nat × ETy) × Val)) (d : Nat × ETy)
    (h : ∀ p ∈ svals, p.1.1 ≠ d.1) : convField c svals d = .ok (zero (depth d.2 + 1) d.2) := by
  simp only [convField, (List.find?_key_fresh (fun p : (Nat × ETy) × Val => p.1.1) h).1]

/-- a destination field that is itself one of the source fields (same name, same type `p.1.2`, the source's names being
    distinct) is converted from that type to itself -/
theorem convField_of_mem (c : ETy → ETy → Val → CRes) {svals : List ((Nat × ETy) × Val)}
    (hd : svals.Pairwise (fun a b => a.1.1 ≠ b.1.1)) {p : (Nat × ETy) × Val} (hp : p ∈ svals) :
    convField c svals p.1 = c p.1.2 p.1.2 p.2 := by
  simp only [convField, List.find?_key_of_mem (fun x : (Nat × ETy) × Val => x.1.1) hd hp]

theorem zip_namesDistinct {fl : List (Nat × ETy)} (vs : List Val) (hd : namesDistinct fl = true) :
    (fl.zip vs).Pairwise (fun a b => a.1.1 ≠ b.1.1) := by
  have hp := (namesDistinct_iff fl).mp hd
  clear hd
  induction hp generalizing vs with
  | nil => simp
  | cons ha _ ih =>
    cases vs with
    | nil => simp
    | cons v vs => exact List.pairwise_cons.mpr ⟨fun p hp => ha p.1 (List.of_mem_zip hp).1, ih vs⟩

theorem unionPairsLoop_self (f : ETy → ETy → Cls) (olds : List (Option ETy))
    (hf : ∀ c ∈ olds, cmpCase f c c = .same) :
    ∀ (suf pre : List (Option ETy)) (acc : List (Nat × Nat)), olds = pre ++ suf →
      unionPairsLoop f olds suf pre.length (List.replicate pre.length true ++ List.replicate suf.length false) acc
      = acc.reverse ++ (List.range' pre.length suf.length).map fun k => (k, k)
  | [], pre, acc, _ => by simp [unionPairsLoop]
  | c :: r, pre, acc, h => by
    have hc : cmpCase f c c = .same := hf c (by simp [h])
    have hm := findMatch_self f c hc pre r (List.replicate r.length false) 0
    rw [← h] at hm
    have ih := unionPairsLoop_self f olds hf r (pre ++ [c]) ((pre.length, pre.length) :: acc) (by simp [h])
    simp only [List.length_append, List.length_cons, List.length_nil, Nat.zero_add] at ih
    -- as in `unionLoop_mid`: one round with `replicate (n + 1)` opened, closed again so that `ih` applies
    simp only [unionPairsLoop, List.length_cons, List.replicate_succ, hm, Nat.zero_add, setTrue_replicate]
    rw [← List.replicate_succ, ih]
    simp only [List.reverse_cons, List.append_assoc, List.range'_succ, List.map_cons, List.singleton_append]

theorem unionPairs_self (f : ETy → ETy → Cls) (cs : List (Option ETy))
    (hf : ∀ c ∈ cs, cmpCase f c c = .same) :
    unionPairs f cs cs = (List.range' 0 cs.length).map fun k => (k, k) := by
  have h := unionPairsLoop_self f cs hf cs [] [] (by simp)
  simp only [List.length_nil, List.replicate_zero, List.nil_append, List.reverse_nil] at h
  rw [unionPairs, List.map_const', h]

theorem find_diag {n k : Nat} (hk : k < n) :
    ((List.range' 0 n).map fun k => (k, k)).find? (fun p => p.2 == k) = some (k, k) :=
  List.find?_key_of_mem (fun p : Nat × Nat => p.2) (e := (k, k)) (List.pairwise_map.mpr (List.nodup_range' (s := 0)))
    (List.mem_map.mpr ⟨k, List.mem_range'_1.mpr ⟨Nat.zero_le k, by omega⟩, rfl⟩)

theorem ofFull_toFull (cs : List (Option ETy)) (i : Nat) : ofFull cs (toFull cs i) = i := by
  unfold ofFull toFull
  cases hasNullL cs <;> simp

theorem toFull_ofFull (cs : List (Option ETy)) {j : Nat} (h : hasNullL cs = true → 0 < j) : toFull cs (ofFull cs j) = j := by
  unfold ofFull toFull
  cases hn : hasNullL cs
  · simp
  · have := h hn
    simp only [if_true]; omega

theorem mapM'_map (g : Val → CRes) (φ : Val → Val) : ∀ (vs acc : List Val), (∀ v ∈ vs, g v = .ok (φ v)) →
    mapM' g vs acc = .ok (.list (acc.reverse ++ vs.map φ))
  | [], acc, _ => by simp [mapM']
  | v :: r, acc, h => by
    have hv := h v (by simp)
    have := mapM'_map g φ r (φ v :: acc) (fun x hx => h x (by simp [hx]))
    simp [mapM', hv, this]

theorem mapM'_err (g : Val → CRes) (m : String) : ∀ (pre : List Val) (x : Val) (post acc : List Val),
    (∀ v ∈ pre, ∃ w, g v = .ok w) → g x = .err m → mapM' g (pre ++ x :: post) acc = .err m
  | [], x, post, acc, _, hx => by simp [mapM', hx]
  | v :: r, x, post, acc, h, hx => by
    obtain ⟨w, hw⟩ := h v (by simp)
    have := mapM'_err g m r x post (w :: acc) (fun y hy => h y (by simp [hy])) hx
    simp [mapM', hw, this]

/-- the comparison the converters ask, in the direction the flag says: the local `k` of `conv`
    (YardlModel/Evolution.lean), restated so that it can appear in statements -/
def kcmp (reading : Bool) (a b : ETy) : Cls :=
  if reading then cmp (depth a + depth b) b a else cmp (depth a + depth b) a b

theorem kcmp_self (reading : Bool) (t : ETy) (hw : wfT t = true) : kcmp reading t t = .same := by
  unfold kcmp
  cases reading <;> simp [cmp_self (depth t + depth t) t hw (by omega)]

/-! `conv` on the pairs of shapes that the proofs meet, each by `rfl` (see the note on `cmp` in EvolutionRefl). -/

section
variable (reading : Bool) (fuel : Nat)

theorem conv_record (n n' : Nat) (sfs dfs : EFields) (vs : List Val) :
    conv reading (fuel + 1) (.record n sfs) (.record n' dfs) (.record vs) =
      convFields (conv reading fuel) (sfs.toList.zip vs) dfs.toList [] := rfl

theorem conv_vector (st dt : ETy) (l l' : Option Nat) (vs : List Val) :
    conv reading (fuel + 1) (.vector st l) (.vector dt l') (.list vs) = mapM' (conv reading fuel st dt) vs [] := rfl

theorem conv_union_case (scs dcs : ECases) (i : Nat) (x : Val) :
    conv reading (fuel + 1) (.union scs) (.union dcs) (.case i x) =
      match (if reading then unionPairs (fun a b => cmp (depth a + depth b) a b) dcs.toList scs.toList
             else (unionPairs (fun a b => cmp (depth a + depth b) a b) scs.toList dcs.toList).map fun p => (p.2, p.1)).find?
          (fun p => p.2 == toFull scs.toList i) with
      | some (j, si) =>
        (match scs.toList.getD si none, dcs.toList.getD j none with
         | some st, some dt => (conv reading fuel st dt x).map (.case (ofFull dcs.toList j))
         | _, _ => .unsupported "null paired with a type")
      | none => .err "Source type incompatible with target union type" := rfl

theorem conv_to_optional (st dt : ETy) (v : Val) (h : isScalarGen st = false) :
    conv reading (fuel + 1) st (.optional dt) v = (conv reading fuel st dt v).map .some := by
  cases st <;> first | rfl | simp [isScalarGen] at h

theorem conv_from_optional (st dt : ETy) (v : Val) (h : isScalarGen dt = false) :
    conv reading (fuel + 1) (.optional st) dt v =
      match v with
      | .some x => conv reading fuel st dt x
      | _ => .ok (zero (depth dt + 1) dt) := by
  cases dt <;> first | rfl | simp [isScalarGen] at h

/-- a type that is neither an optional nor a union, where a union is expected: it goes to the first case it is compatible with -/
theorem conv_to_union (st : ETy) (dcs : ECases) (v : Val) (h : isScalarGen st = false) :
    conv reading (fuel + 1) st (.union dcs) v =
      match firstCase (fun t => kcmp reading st t) dcs.toList 0 with
      | some j => (conv reading fuel st ((dcs.toList.getD j none).getD st) v).map (.case (ofFull dcs.toList j))
      | none => .unsupported "no matching union case" := by
  cases st <;> first | rfl | simp [isScalarGen] at h

/-- a union holding a case, where a type that is neither an optional nor a union is expected -/
theorem conv_from_union (scs : ECases) (dt : ETy) (i : Nat) (x : Val) (h : isScalarGen dt = false) :
    conv reading (fuel + 1) (.union scs) dt (.case i x) =
      match firstCase (fun t => kcmp reading t dt) scs.toList 0 with
      | some j => if toFull scs.toList i = j then conv reading fuel ((scs.toList.getD j none).getD dt) dt x
                  else .ok (zero (depth dt + 1) dt)
      | none => .unsupported "no matching union case" := by
  cases dt <;> first | rfl | simp [isScalarGen] at h

/-- an optional holding a value, where a union is expected: the first case after the leading one that the type is compatible with -/
theorem conv_optional_to_union (st : ETy) (dcs : ECases) (x : Val) :
    conv reading (fuel + 1) (.optional st) (.union dcs) (.some x) =
      match firstCase (fun t => kcmp reading st t) (dcs.toList.drop 1) 1 with
      | some j => (conv reading fuel st ((dcs.toList.getD j none).getD st) x).map (.case (ofFull dcs.toList j))
      | none => .unsupported "no matching union case" := rfl

/-- a union holding a case, where an optional is expected: the case is kept if it is the first one after the leading one
    that the optional's type is compatible with, any other case becomes null -/
theorem conv_union_to_optional (scs : ECases) (dt : ETy) (i : Nat) (x : Val) :
    conv reading (fuel + 1) (.union scs) (.optional dt) (.case i x) =
      match firstCase (fun t => kcmp reading t dt) (scs.toList.drop 1) 1 with
      | some j => if toFull scs.toList i = j then (conv reading fuel ((scs.toList.getD j none).getD dt) dt x).map .some else .ok .none
      | none => .unsupported "no matching union case" := rfl

end

theorem conv_self (reading : Bool) : ∀ (fuel : Nat) (t : ETy) (v : Val),
    wfT t = true → fitsT t v = true → depth t ≤ fuel → conv reading fuel t t v = .ok v
  | 0, t, _, _, _, h => absurd h (Nat.not_le.mpr (depth_pos t))
  | fuel + 1, .prim p, v, _, _, _ => if_pos rfl
  | fuel + 1, .enum _ _ _ _, v, _, _, _ | fuel + 1, .array _ _, v, _, _, _ | fuel + 1, .map _ _, v, _, _, _ => rfl
  | fuel + 1, .tparam _, v, _, hf, _ | fuel + 1, .inst _ _ _, v, _, hf, _ => by simp [fitsT] at hf
  | fuel + 1, .optional t, v, hw, hf, h => by
    simp only [wfT] at hw
    -- here and below: the values of another shape do not fit (`hf` becomes `False`); for those that do, `hf` is restated
    cases v <;> simp [fitsT] at hf
    case none => rfl
    case some x =>
      have hf : fitsT t x = true := hf
      have := conv_self reading fuel t x hw hf (by simp only [depth] at h; omega)
      show (conv reading fuel t t x).map .some = .ok (.some x)
      rw [this]; rfl
  | fuel + 1, .vector t l, v, hw, hf, h => by
    simp only [wfT] at hw
    cases v <;> simp [fitsT] at hf
    case list vs =>
      have hf : ∀ x ∈ vs, fitsT t x = true := hf
      have hall : ∀ x ∈ vs, conv reading fuel t t x = .ok x := fun x hx =>
        conv_self reading fuel t x hw (hf x hx) (by simp only [depth] at h; omega)
      simp [conv_vector, mapM'_map (conv reading fuel t t) id vs [] hall]
  | fuel + 1, .record n fs, v, hw, hf, h => by
    simp only [wfT, Bool.and_eq_true] at hw
    simp only [depth] at h
    cases v <;> simp [fitsT] at hf
    case record vs =>
      have hf : fitsF fs vs = true := hf
      obtain ⟨hlen, hfit⟩ := (fitsF_iff fs vs).mp hf
      have hc : ∀ p ∈ fs.toList.zip vs, convField (conv reading fuel) (fs.toList.zip vs) p.1 = .ok p.2 := fun p hp => by
        have hm := fields_mem fs p.1.1 p.1.2 (List.of_mem_zip hp).1
        rw [convField_of_mem _ (zip_namesDistinct vs hw.1) hp]
        exact conv_self reading fuel p.1.2 p.2 (hm.1 hw.2) (hfit p hp) (by omega)
      have := convFields_ok (conv reading fuel) _ _ [] hc
      rw [List.map_fst_zip (by omega), List.map_snd_zip (by omega)] at this
      simp [conv_record, this]
  | fuel + 1, .union cs, v, hw, hf, h => by
    simp only [wfT, Bool.and_eq_true, Bool.not_eq_true', List.isEmpty_eq_false_iff] at hw
    simp only [depth] at h
    have hself := cmpCase_self (fun a b => cmp (depth a + depth b) a b) (l := cs.toList) fun t ht =>
      cmp_self (depth t + depth t) t ((cases_mem cs t ht).1 hw.2) (by omega)
    have hpairs := unionPairs_self (fun a b => cmp (depth a + depth b) a b) cs.toList hself
    have hswap : (List.map (fun p : Nat × Nat => (p.2, p.1)) ((List.range' 0 cs.toList.length).map fun k => (k, k)))
        = (List.range' 0 cs.toList.length).map fun k => (k, k) := by
      simp [List.map_map]
    cases v <;> simp [fitsT] at hf
    case none =>
      have hf : hasNullL cs.toList = true := hf
      exact if_pos hf
    case case i x =>
      have hf : fitsC cs (toFull cs.toList i) x = true := hf
      obtain ⟨t, ht, hft⟩ := fitsC_get cs (toFull cs.toList i) x hf
      have hlt : toFull cs.toList i < cs.toList.length := (List.getElem?_eq_some_iff.mp ht).1
      have hfd := find_diag hlt
      have hm := cases_mem cs t (List.mem_of_getElem? ht)
      have hx := conv_self reading fuel t x (hm.1 hw.2) hft (by omega)
      cases reading <;>
        simp [conv_union_case, hpairs, hswap, hfd, ht, hx, CRes.map, ofFull_toFull]

end Yardl.Evo
