import YardlProofs.Closure
import YardlProofs.WireStream

/-!
# C04 — Every stream carries a schema that pins down its encoding

Proved here:
* `header_carries_schema` / `header_determines_schema`: every binary stream starts with the format
  header followed by the schema, and a stream determines its schema.
* The traversal that collects the schema's `types` (`GetProtocolSchema`: visited-set DFS + sort) is
  modelled in `YardlModel/Closure.lean`; `closure_exact` shows that it yields exactly the named types
  reachable from the protocol, hence the schema depends only on the protocol and the types it
  transitively uses: `closure_order_independent` (definition/field order, repeated references) and
  `closure_ignores_unreachable` (adding or editing an unreferenced definition).

Decided by correspondence (`checks/c04.py`): `planOfSchema` (`YardlModel/Schema.lean`) — a reader that
sees only the schema text — reconstructs the true wire types of every protocol of random and directed
packages, so two protocols that encode differently never share a schema text; the text is identical
in generated C++, Python, MATLAB and in-process; neutral edits keep it; wire-affecting edits change
it. Not recorded by the schema (known finding): `!enum` versus `!flags`, which changes the NDJSON
encoding only.
-/

namespace Yardl.C04
open Yardl Yardl.Closure

theorem header_carries_schema (schema body : Bytes) :
    ∃ rest, encHeader schema ++ body = magic ++ encLE 4 1 ++ rest ∧ decHeader (encHeader schema ++ body) = some (schema, body) := by
  refine ⟨encVar schema.length ++ schema ++ body, ?_, decHeader_encHeader schema body⟩
  simp [encHeader, List.append_assoc]

theorem header_determines_schema (s₁ s₂ b₁ b₂ : Bytes) (h : encHeader s₁ ++ b₁ = encHeader s₂ ++ b₂) : s₁ = s₂ :=
  (inj_of_round_trip decHeader_encHeader h).1

theorem closure_exact (refs : Refs) (fuel : Nat) (roots vis : List Nat) (h : closure refs fuel roots = some vis) :
    ∀ x, x ∈ vis ↔ ∃ r ∈ roots, Reach refs r x :=
  Closure.closure_exact refs fuel roots vis h

theorem closure_order_independent (r₁ r₂ : Refs) (f₁ f₂ : Nat) (roots₁ roots₂ v₁ v₂ : List Nat)
    (h : ∀ n m, m ∈ r₁ n ↔ m ∈ r₂ n) (hr : ∀ x, x ∈ roots₁ ↔ x ∈ roots₂)
    (h₁ : closure r₁ f₁ roots₁ = some v₁) (h₂ : closure r₂ f₂ roots₂ = some v₂) : ∀ x, x ∈ v₁ ↔ x ∈ v₂ :=
  Closure.closure_order_independent r₁ r₂ f₁ f₂ roots₁ roots₂ v₁ v₂ h hr h₁ h₂

theorem closure_ignores_unreachable (r₁ r₂ : Refs) (f₁ f₂ : Nat) (roots v₁ v₂ : List Nat) (u : Nat)
    (hsame : ∀ n, n ≠ u → r₁ n = r₂ n) (hun : ∀ r ∈ roots, ¬ Reach r₁ r u)
    (h₁ : closure r₁ f₁ roots = some v₁) (h₂ : closure r₂ f₂ roots = some v₂) : ∀ x, x ∈ v₁ ↔ x ∈ v₂ :=
  Closure.closure_ignores_unreachable r₁ r₂ f₁ f₂ roots v₁ v₂ u hsame hun h₁ h₂

/-! Non-vacuity: protocol mentions 1; 1 → 2,3; 3 → 2; 4 unreferenced. The generic revisited with
    other arguments (the seeded defect C04/C15) is the shape 1 → [5(7), 5(8)]: both 7 and 8 are found. -/
def exRefs : Refs := fun n => match n with | 1 => [2, 3] | 3 => [2] | 4 => [1] | _ => []
example : closure exRefs 10 [1] = some [3, 2, 1] := by decide
def exGeneric : Refs := fun n => match n with | 1 => [5, 7, 5, 8] | 8 => [9] | _ => []
example : closure exGeneric 10 [1] = some [9, 8, 7, 5, 1] := by decide

end Yardl.C04
