import YardlProofs.StreamsW
import YardlProofs.CppStreamSeq
import YardlProofs.PyStreamSeq

/-!
  What either buffered output stream (C++ / Python model) emits for a sequence of items is read back by
  either buffered input stream (C++ / Python model) as exactly those items, whatever the four buffer
  capacities and refill boundaries are. Both languages' streams, both directions: the stream-level core of
  "written by one, read by the other".
-/

namespace Yardl

namespace CItem

def toW : CItem → WOp
  | .byte b => .byte b
  | .var32 n => .var32 n
  | .var64 n => .var64 n
  | .bytes bs => .bytes bs

def toR : CItem → RItem
  | .byte b => .byte b
  | .var32 n => .var n
  | .var64 n => .var n
  | .bytes bs => .bytes bs

def rval : CVal → RVal
  | .byte b => .byte b
  | .num n => .num n
  | .bytes bs => .bytes bs

theorem val_toR (i : CItem) : i.toR.val = rval i.val := by cases i <;> rfl

theorem ok_toW (i : CItem) (cap : Nat) (h : i.ok) : i.toW.ok cap := by
  cases i <;> first | exact h | trivial

theorem spec_toW_list (items : List CItem) : ((items.map toW).map WOp.spec).flatten = encCItems items := by
  induction items with
  | nil => rfl
  | cons i r ih => cases i <;> simpa [encCItems, CItem.enc, toW, WOp.spec] using ih

theorem enc_toR_list (items : List CItem) : encItems (items.map toR) = encCItems items := by
  induction items with
  | nil => rfl
  | cons i r ih => cases i <;> simpa [encItems, encCItems, CItem.enc, RItem.enc, toR] using ih

end CItem

/-- `out` is what the chosen writer emitted -/
theorem written_by_either_read_by_either (items : List CItem) (hi : ∀ i ∈ items, i.ok)
    (w : COS) (hw : 10 ≤ w.cap) (hwinv : w.Inv) (hwe : w.abs = []) (out : Bytes)
    (hout : out = (Cpp.run w (items.map CItem.toW)).abs ∨ out = (Py.run w (items.map CItem.toW)).abs)
    (rest : Bytes) :
    (∀ r : CIS, 0 < r.cap → r.Inv → r.pending = out ++ rest →
      ∃ r', r.readItems items = .ok (items.map CItem.val) r' ∧ r'.pending = rest) ∧
    (∀ r : PIS, 0 < r.cap → r.Inv → r.pending = out ++ rest →
      ∃ r', r.readItems (items.map CItem.toR) = .ok ((items.map CItem.val).map CItem.rval) r' ∧ r'.pending = rest) := by
  have hok : ∀ op ∈ items.map CItem.toW, op.ok w.cap := List.forall_mem_map.mpr fun i him => i.ok_toW _ (hi i him)
  -- both writers have emitted the specified bytes
  have hout' : out = encCItems items := by
    rcases hout with h | h <;> rw [h]
    · rw [(Cpp.run_spec _ w hw hwinv hok).1, hwe, CItem.spec_toW_list]; rfl
    · rw [(Py.run_spec _ w hw hwinv hok).1, hwe, CItem.spec_toW_list]; rfl
  subst hout'
  refine ⟨fun r hr hrinv hp => ?_, fun r hr hrinv hp => ?_⟩
  · obtain ⟨r', h, hp', _, _⟩ := CIS.readItems_ok items r hr hrinv hi rest hp
    exact ⟨r', h, hp'⟩
  · obtain ⟨r', h, hp', _, _⟩ := PIS.readItems_ok (items.map CItem.toR) r hr hrinv
      (List.forall_mem_map.mpr fun i _ => by cases i <;> trivial) rest
      (by rw [CItem.enc_toR_list]; exact hp)
    have e : (items.map CItem.toR).map RItem.val = (items.map CItem.val).map CItem.rval := by
      simp [List.map_map, Function.comp_def, CItem.val_toR]
    exact ⟨r', e ▸ h, hp'⟩

/-- a fixed-size number written little-endian is what the reader's `struct` decoding of those bytes returns -/
theorem encLE_leVal : ∀ (bs : Bytes), encLE bs.length (CIS.leVal bs) = bs
  | [] => rfl
  | b :: r => by
    have ih := encLE_leVal r
    have hb : b.toNat < 256 := b.toNat_lt
    simp only [List.length_cons, encLE, CIS.leVal]
    have h1 : (b.toNat + 256 * CIS.leVal r) % 256 = b.toNat := by omega
    have h2 : (b.toNat + 256 * CIS.leVal r) / 256 = CIS.leVal r := by omega
    rw [h1, h2, ih]
    simp

namespace RItem

/-- the write that puts an item on the stream; a varint goes as `.var64` (`Py.step` treats `.var32` and `.var64` alike) -/
def toW : RItem → WOp
  | .byte b => .byte b
  | .fixed bs => .fixed bs.length (CIS.leVal bs)
  | .var n => .var64 n
  | .bytes bs => .bytes bs

/-- what the Python writer accepts: varints below 2^64, fixed-size numbers no wider than the buffer -/
def wok (cap : Nat) : RItem → Prop
  | .var n => n < 2 ^ 64
  | .fixed bs => bs.length ≤ cap
  | _ => True

theorem spec_toW (i : RItem) : i.toW.spec = i.enc := by
  cases i <;> first | rfl | exact encLE_leVal _

theorem ok_toW (i : RItem) (cap : Nat) (h : i.wok cap) : i.toW.ok cap := by
  cases i <;> first | exact h | trivial

theorem spec_toW_list (items : List RItem) : ((items.map toW).map WOp.spec).flatten = encItems items := by
  induction items with
  | nil => rfl
  | cons i r ih => simpa [encItems, spec_toW] using ih

end RItem

/-- Python to Python, fixed-size numbers included -/
theorem python_stream_round_trip (items : List RItem) (w : COS) (hw : 10 ≤ w.cap) (hwinv : w.Inv) (hwe : w.abs = [])
    (hi : ∀ i ∈ items, i.wok w.cap) (r : PIS) (hr : 0 < r.cap) (hrinv : r.Inv) (hf : ∀ i ∈ items, i.fits r.cap)
    (rest : Bytes) (hp : r.pending = (Py.run w (items.map RItem.toW)).abs ++ rest) :
    ∃ r', r.readItems items = .ok (items.map RItem.val) r' ∧ r'.pending = rest := by
  have h := (Py.run_spec (items.map RItem.toW) w hw hwinv
    (List.forall_mem_map.mpr fun i him => i.ok_toW _ (hi i him))).1
  rw [hwe, RItem.spec_toW_list] at h
  obtain ⟨r', e, hp', _, _⟩ := PIS.readItems_ok items r hr hrinv hf rest (by rw [hp, h]; simp)
  exact ⟨r', e, hp'⟩

end Yardl
