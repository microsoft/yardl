import YardlProofs.HasType
import YardlProofs.ListLemmas
import YardlProofs.WireRoundTrip
import YardlProofs.WireStream
import YardlProofs.WirePrefix
import YardlProofs.StreamsW
import YardlProofs.StreamsR
import YardlProofs.Batch
import YardlProofs.Imports
import YardlProofs.Determinism
import YardlProofs.Cli
import YardlProofs.Proto
import YardlProofs.Closure
import YardlProofs.EvolutionRefl
import YardlProofs.ConvRefl
import YardlProofs.JsonFlags
import YardlProofs.EvolutionClasses
import YardlProofs.PyStreamR
import YardlProofs.NdjsonReader
import YardlProofs.ConvClasses
import YardlProofs.TypeParser
import YardlProofs.Expr
import YardlProofs.Namespaces
import YardlProofs.ProtoMatlab
import YardlProofs.ProtoFail
import YardlProofs.Case
import YardlProofs.Resolve
import YardlProofs.PyStreamSeq
import YardlProofs.CppStreamSeq
import YardlProofs.StreamCompose
