import YardlProofs.Determinism
import YardlGenerated.MapRanges

/-!
# C12 — Output is a deterministic, idempotent function of the package

Go randomises map iteration order in every process, so "repeated runs give byte-identical results"
is a statement about *all* iteration orders. It is decided as follows.

1. `every_map_range_is_order_free`: the translator lists **every** `range` over a map-typed
   expression in `/repo/tooling` (go/types) on every run and classifies it against the committed
   expectations (`harness/py/maprange_expect.json`); a new site, a changed loop body or a site that
   lost its sort is emitted as `other`, and this theorem (by `decide` over the regenerated list)
   fails.
2. For each class the order-independence is a theorem for arbitrary sizes:
   `commutative_accumulation_order_free`, `sorted_keys_order_free`, `sorted_sink_order_free`.
3. `sinks_sort_by_a_total_key`: both sinks still compare file, line, column **and message** — the
   message tie-break is what makes the order total (two diagnostics at one position with different
   texts), see the seeded change `C12-diagnostics-sorted-without-message-tiebreak`.

4. `regeneration_touches_nothing`, `file_written_iff_different`: the output directory under `WriteFileIfNeeded`
   (`YardlModel/Determinism.lean`): a second run over unchanged input writes no file. `checks/c12.py` drives the
   real `iocommon.WriteFileIfNeeded` in-process at sizes around every power-of-two block boundary against
   `Det.writeIfNeeded`.

The syntactic classification is trusted (stated in DESIGN.md); `checks/c12.py` runs the real CLI
repeatedly on packages built to put ≥ 3 entries into every listed map and diffs all outputs, and
checks that regenerating an unchanged package leaves every file untouched.
-/

namespace Yardl.C12
open Yardl.Det Yardl.Generated

theorem every_map_range_is_order_free : ∀ s ∈ mapRangeSites, s.2.2.2 ≠ SiteClass.other := by decide

theorem sinks_sort_by_a_total_key :
    ∀ s ∈ sinkOrderingKeys, s.2 = ["File", "Line", "Column", "Message"] := by decide

/-- Two sorted arrangements of the same diagnostics are identical (`less` is total on well-formed diagnostics). -/
theorem sorted_sink_order_free (l₁ l₂ : List Diag) (hw : ∀ d ∈ l₁, Wf d) (h₁ : Sorted l₁) (h₂ : Sorted l₂)
    (hp : l₁.Perm l₂) : l₁ = l₂ :=
  hp.eq_of_pairwise (fun a b ha hb hab hba => eq_of_not_less a b (hw a ha) (hw b (hp.symm.subset hb)) hba hab) h₁ h₂

/-- Commutative accumulation (sets, maps keyed by the entry, flags): the fold over a map's entries
    does not depend on the iteration order. -/
theorem commutative_accumulation_order_free {α β : Type} (f : β → α → β)
    (hcomm : ∀ b x y, f (f b x) y = f (f b y) x) (l₁ l₂ : List α) (hp : l₁.Perm l₂) (b : β) :
    l₁.foldl f b = l₂.foldl f b :=
  hp.foldl_eq' (fun x _ y _ z => hcomm z x y) b

/-- Collect the keys, sort them by a total order, then use them: the sorted key list does not
    depend on the iteration order. -/
theorem sorted_keys_order_free (l₁ l₂ : List Nat) (h₁ : l₁.Pairwise (· ≤ ·)) (h₂ : l₂.Pairwise (· ≤ ·))
    (hp : l₁.Perm l₂) : l₁ = l₂ :=
  hp.eq_of_pairwise (fun _ _ _ _ => Nat.le_antisymm) h₁ h₂

/-- `less` without its last key, the message -/
def lessNoMsg (a b : Diag) : Bool :=
  if a.file ≠ b.file then a.file < b.file
  else if a.line.getD 0 ≠ b.line.getD 0 then a.line.getD 0 < b.line.getD 0
  else a.col.getD 0 < b.col.getD 0

/-- Without the message tie-break the order is not determined: two diagnostics at the same position
    are both "sorted" in either order (the situation of the seeded change). -/
theorem no_tiebreak_is_ambiguous :
    ∃ a b : Diag, a ≠ b ∧ lessNoMsg a b = false ∧ lessNoMsg b a = false :=
  ⟨⟨1, some 3, some 5, 10⟩, ⟨1, some 3, some 5, 11⟩, by decide, by decide, by decide⟩

/-! The hypotheses of `sorted_sink_order_free` can be met, also with two diagnostics at one position. -/
example : Sorted [⟨1, some 3, some 5, 10⟩, ⟨1, some 3, some 5, 11⟩, ⟨2, none, none, 0⟩] := by
  unfold Sorted; decide
example : Wf ⟨1, some 3, some 5, 10⟩ := by simp [Wf]

/-! ### idempotence: every generator writes through `WriteFileIfNeeded` -/

/-- regenerating an unchanged package (the generators emit the same files with the same contents, each path once):
    no file is written the second time and the output tree is what the first run left, whatever was in the
    output directory before the first run -/
theorem regeneration_touches_nothing (files : List (Nat × List UInt8)) (fs : Fs) (hd : pathsDistinct files = true) :
    generate files (generate files fs).1 = ((generate files fs).1, []) :=
  foldl_fixed files ((generate files fs).1, []) (foldl_content files (fs, []) hd)

/-- a file is written exactly when it is missing or holds other bytes (any length, any position of the difference) -/
theorem file_written_iff_different (fs : Fs) (f : Nat × List UInt8) :
    (writeIfNeeded (fs, []) f).2 = (if fs.get f.1 = some f.2 then [] else [f.1]) :=
  touched_iff_different fs f

/-- after a run every emitted file holds the emitted bytes -/
theorem generated_files_hold_their_content (files : List (Nat × List UInt8)) (fs : Fs) (hd : pathsDistinct files = true) :
    ∀ f ∈ files, (generate files fs).1.get f.1 = some f.2 :=
  foldl_content files (fs, []) hd

/-- the hypothesis matters: a path emitted twice with different contents is rewritten on every run -/
example : (generate [(1, [1]), (1, [2])] (generate [(1, [1]), (1, [2])] []).1).2 ≠ [] := by decide

example : pathsDistinct [(1, [1, 2]), (2, []), (3, [9])] = true := by decide

end Yardl.C12
