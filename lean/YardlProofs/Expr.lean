import YardlModel.Expr
import YardlProofs.ListLemmas

/-!
  YardlProofs.Expr — computed-field expressions.

  Typing: what `lookup2` and `binopType` answer, for any tables; the property theorems of C19 put the regenerated tables
  in and are left with facts that one pass over a table decides.

  Evaluation: arithmetic carried out in a fixed-width integer type yields the mathematical value whenever the operands,
  the intermediate results and the result are in the range of the type; an integer literal gets the first width that holds it.
-/

namespace Yardl

theorem lookup2_eq_bind (tab : List (Prim × Prim × Option Prim)) (a b : Prim) :
    lookup2 tab a b = (tab.find? fun r => r.1 == a && r.2.1 == b).bind (·.2.2) := by
  unfold lookup2
  cases tab.find? _ <;> rfl

theorem lookup2_mem {tab : List (Prim × Prim × Option Prim)} {a b c : Prim} (h : lookup2 tab a b = some c) :
    (a, b, some c) ∈ tab := by
  rw [lookup2_eq_bind, Option.bind_eq_some_iff] at h
  obtain ⟨⟨a', b', c'⟩, hr, rfl⟩ := h
  have hk := List.find?_some hr
  simp only [Bool.and_eq_true, beq_iff_eq] at hk
  rw [← hk.1, ← hk.2]
  exact List.mem_of_find?_eq_some hr

/-- A table whose `a`-row and `a`-column list the same (other operand, result) pairs in the same order is symmetric:
    looking `b` up in the row is `lookup2 tab a b`, in the column `lookup2 tab b a`.
    The hypothesis costs two passes over the table per `a`; looking every pair up costs one pass per pair. -/
theorem lookup2_symm {tab : List (Prim × Prim × Option Prim)}
    (h : ∀ a, (tab.filter (·.1 == a)).map (fun r => (r.2.1, r.2.2)) = (tab.filter (·.2.1 == a)).map (fun r => (r.1, r.2.2)))
    (a b : Prim) : lookup2 tab a b = lookup2 tab b a := by
  have := congrArg (fun l => (l.find? (·.1 == b)).bind (·.2)) (h a)
  simp only [List.find?_map, List.find?_filter, Option.bind_map, Function.comp_def, Bool.decide_and, Bool.decide_eq_true] at this
  simpa only [lookup2_eq_bind, Bool.and_comm (_ == b)] using this

/-- When `binopType` answers, the operands are numeric and the answer is their common type `c'`, except that `**`
    turns an integer type into `float64` and the other operators promote the small integers to `int32`. -/
theorem binopType_eq_some {T : Tables} {op : BinOp} {a b c : Prim} (h : binopType T op a b = some c) :
    lookupKind T.info a ≤ 2 ∧ lookupKind T.info b ≤ 2 ∧ ∃ c', lookup2 T.common a b = some c' ∧
      c = if op = .pow then (if lookupKind T.info c' = 0 then .float64 else c')
          else if c' = .int8 ∨ c' = .uint8 ∨ c' = .int16 ∨ c' = .uint16 then .int32 else c' := by
  unfold binopType at h
  split at h
  next hk =>
    simp only [Bool.and_eq_true, decide_eq_true_eq] at hk
    refine ⟨hk.1, hk.2, ?_⟩
    split at h
    next => cases h
    next c' hc' =>
      simp only [← apply_ite some, Option.some.injEq] at h
      exact ⟨c', hc', h.symm⟩
  next => cases h

theorem binopType_comm {T : Tables} (hs : ∀ a b, lookup2 T.common a b = lookup2 T.common b a) (op : BinOp) (a b : Prim) :
    binopType T op a b = binopType T op b a := by
  simp only [binopType, hs a b, Bool.and_comm (decide (lookupKind T.info a ≤ 2))]

theorem Rng.wrap_of_contains (r : Rng) (v : Int) (h : r.contains v = true) : r.wrap v = v := by
  simp only [Rng.contains, Bool.and_eq_true, decide_eq_true_eq] at h
  unfold Rng.wrap
  have h1 : 0 ≤ v - r.lo := by omega
  have h2 : v - r.lo < r.hi - r.lo + 1 := by omega
  rw [Int.emod_eq_of_lt h1 h2]
  omega

theorem Expr.evalW_exact (r : Rng) (ρ : Nat → Int) : ∀ (e : Expr), e.inRange r ρ = true → e.evalW r ρ = e.eval ρ
  | .lit n, h => by
    simp only [Expr.inRange] at h
    simp [Expr.evalW, Expr.eval, Rng.wrap_of_contains r n h]
  | .var i, h => by
    simp only [Expr.inRange] at h
    simp [Expr.evalW, Expr.eval, Rng.wrap_of_contains r (ρ i) h]
  | .neg e, h => by
    simp only [Expr.inRange, Bool.and_eq_true] at h
    have ih := Expr.evalW_exact r ρ e h.1
    have h2 := h.2
    simp only [Expr.eval] at h2
    cases hv : e.eval ρ with
    | none => simp [hv] at h2
    | some x =>
      simp only [hv, Option.map_some] at h2
      simp [Expr.evalW, Expr.eval, ih, hv, Rng.wrap_of_contains r (-x) h2]
  | .bin op l r', h => by
    simp only [Expr.inRange, Bool.and_eq_true] at h
    have ihl := Expr.evalW_exact r ρ l h.1.1
    have ihr := Expr.evalW_exact r ρ r' h.1.2
    have h2 := h.2
    simp only [Expr.eval] at h2
    simp only [Expr.evalW, Expr.eval, ihl, ihr]
    cases hx : l.eval ρ with
    | none => simp [hx] at h2
    | some x =>
      cases hy : r'.eval ρ with
      | none => simp [hx, hy] at h2
      | some y =>
        simp only [hx, hy] at h2 ⊢
        cases op with
        | div =>
          simp only at h2 ⊢
          by_cases hz : y = 0
          · simp [hz] at h2
          · simp only [hz, if_false] at h2 ⊢
            simp [Rng.wrap_of_contains r _ h2]
        | pow => simp at h2
        | _ => simp only at h2 ⊢; simp [Rng.wrap_of_contains r _ h2]

theorem IntTy.contains_unsigned {n : Int} (h : 0 ≤ n) (b : Nat) :
    (IntTy.mk false b).rng.contains n = decide (n ≤ 2 ^ b - 1) := by
  simp [IntTy.rng, Rng.contains, h]

theorem IntTy.contains_signed {n : Int} (h : n < 0) (b : Nat) :
    (IntTy.mk true b).rng.contains n = decide (-2 ^ (b - 1) ≤ n) := by
  have : (0 : Int) < 2 ^ (b - 1) := Int.pow_pos (by decide)
  have : n ≤ 2 ^ (b - 1) - 1 := by omega
  simp [IntTy.rng, Rng.contains, this]

/-- the cascade of comparisons picks the first of the four widths, taken with the literal's signedness, whose range holds the literal -/
theorem litType_eq_find (n : Int) :
    litType n = ([8, 16, 32, 64].map (IntTy.mk (decide (n < 0)))).find? (fun t => t.rng.contains n) := by
  by_cases h : 0 ≤ n
  · have hs : decide (n < 0) = false := by simpa using h
    simp only [litType, h, if_true, hs, List.map, List.find?_cons_ite, List.find?_nil, IntTy.contains_unsigned h, decide_eq_true_eq,
      Int.reducePow, Int.reduceSub]
  · have hn : n < 0 := by omega
    simp only [litType, h, if_false, hn, decide_true, List.map, List.find?_cons_ite, List.find?_nil, IntTy.contains_signed hn,
      decide_eq_true_eq, Nat.reduceSub, Int.reducePow, Int.reduceNeg]

end Yardl
