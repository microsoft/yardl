import YardlModel.Json
import YardlProofs.JsonFlags
import YardlProofs.HasType

/-!
  `fromJ F t (toJ F t v) = some v` for every well-formed type and typed value.

  Well-formedness (`WF`) is what the validator guarantees for the shapes concerned: distinct field
  names, distinct union tags, distinct enum symbol names, optional types whose inner type is not
  itself nullable, union cases that are neither optional nor unions.
-/

namespace Yardl.Json
open Yardl

-- the six bits of `Kinds` are numerals: facts about them are got by evaluation
attribute [local simp] kNull kBool kNum kStr kArr kObj

theorem fromList_jList (f : Val → J) (g : J → Option Val) (ok : Val → Bool) (h : ∀ v, ok v = true → g (f v) = some v) :
    ∀ vs : List Val, allList ok vs = true → fromList g (jList f vs) = some vs
  | [], _ => rfl
  | v :: vs, hall => by
    simp only [allList, Bool.and_eq_true] at hall
    simp [jList, fromList, h v hall.1, fromList_jList f g ok h vs hall.2]

theorem jList_length (f : Val → J) : ∀ vs : List Val, (jList f vs).length = vs.length
  | [] => rfl
  | _ :: vs => by simp [jList, jList_length f vs]

theorem intsOf_map : ∀ shape : List Nat, intsOf (shape.map fun (d : Nat) => J.int (Int.ofNat d)) = some shape
  | [] => rfl
  | d :: r => by
    simp only [List.map_cons, intsOf, intsOf_map r]
    simp

theorem fromPairs_jPairs (fk fv : Val → J) (gk gv : J → Option Val) (okk okv : Val → Bool)
    (hk : ∀ k, okk k = true → gk (fk k) = some k) (hv : ∀ v, okv v = true → gv (fv v) = some v) :
    ∀ kvs : List (Val × Val), allKVs okk okv kvs = true → fromPairs gk gv (jPairs fk fv kvs) = some kvs
  | [], _ => rfl
  | (k, v) :: r, hall => by
    simp only [allKVs, Bool.and_eq_true] at hall
    simp [jPairs, fromPairs, hk k hall.1.1, hv v hall.1.2, fromPairs_jPairs fk fv gk gv okk okv hk hv r hall.2]

theorem fromStrObj_jStrObj (fv : Val → J) (gv : J → Option Val) (okk okv : Val → Bool)
    (hk : ∀ k, okk k = true → ∃ s, k = .str s) (hv : ∀ v, okv v = true → gv (fv v) = some v) :
    ∀ kvs : List (Val × Val), allKVs okk okv kvs = true → fromStrObj gv (jStrObj fv kvs) = some kvs
  | [], _ => rfl
  | (k, v) :: r, hall => by
    simp only [allKVs, Bool.and_eq_true] at hall
    obtain ⟨s, rfl⟩ := hk k hall.1.1
    simp [jStrObj, fromStrObj, hv v hall.1.2, fromStrObj_jStrObj fv gv okk okv hk hv r hall.2]

theorem eq_of_isStringKey (k : Ty) (h : isStringKey k = true) : k = .prim .string := by
  unfold isStringKey at h
  split at h
  · rfl
  · contradiction

theorem primFromJ_primToJ (F : Fmt) (hF : F.Ok) (p : Prim) (v : Val) (h : primHasType p v = true) :
    primFromJ F p (primToJ F p v) = some v := by
  unfold primHasType at h
  -- the clauses of `primHasType` in their order: six typed forms, an integer, anything else
  split at h
  iterate 6 rfl
  · -- a date or time goes through the formatter, every other primitive that has a range is the number itself
    cases p <;> first | rfl | exact absurd h Bool.false_ne_true | simp [primToJ, primFromJ, hF _ _]
  · contradiction

theorem kindOf_ne_zero (j : J) : kindOf j ≠ 0 := by
  cases j <;> simp [kindOf]

theorem prim_kinds_sub (F : Fmt) (p : Prim) (v : Val) (h : primHasType p v = true) :
    kindOf (primToJ F p v) &&& Prim.kinds p = kindOf (primToJ F p v) := by
  unfold primHasType at h
  -- the clauses of `primHasType` in their order: six typed forms, an integer, anything else
  split at h
  iterate 6 simp [primToJ, kindOf, Prim.kinds]
  · cases p <;> first | exact absurd h Bool.false_ne_true | simp [primToJ, kindOf, Prim.kinds]
  · contradiction

/-- the JSON data type of a mapped value is among the data types announced for its type
    (for every type that can be a union case) -/
theorem kinds_sub (F : Fmt) (t : Ty) (v : Val) (ht : HasType t v = true) (hk : kinds t ≠ 0) :
    kindOf (toJ F t v) &&& kinds t = kindOf (toJ F t v) := by
  cases t with
  | prim p => exact prim_kinds_sub F p v ht
  | enum b fl syms =>
    obtain ⟨x, rfl, -⟩ := hasType_enum ht
    -- a symbol or the number; for flags an array of symbols or the number
    cases fl <;> simp only [toJ, kinds, Bool.false_eq_true, if_false, if_true] <;> (repeat' split) <;>
      simp [kindOf]
  | record fs => obtain ⟨vs, rfl, -⟩ := hasType_record ht; simp [toJ, kindOf, kinds]
  | optional t => simp [kinds] at hk
  | union hn cs => simp [kinds] at hk
  | vector t l => obtain ⟨vs, rfl, -⟩ := hasType_vector ht; simp [toJ, kindOf, kinds]
  | array t k =>
    obtain ⟨shape, vs, rfl, -⟩ := hasType_array ht
    cases k <;> simp [toJ, kindOf, kinds]
  | map k w =>
    obtain ⟨kvs, rfl, -⟩ := hasType_map ht
    by_cases hs : isStringKey k = true <;> simp [toJ, hs, kindOf, kinds]

/-- `GetJsonDataType` announces *null* for no type (the optional or union around the type does) -/
theorem kinds_not_null (t : Ty) : kNull &&& kinds t = 0 := by
  cases t with
  | prim p => cases p <;> simp [kinds, Prim.kinds]
  | enum b fl syms => cases fl <;> simp [kinds]
  | array t k => cases k <;> simp [kinds]
  | map k w => by_cases hs : isStringKey k = true <;> simp [kinds, hs]
  | _ => simp [kinds]

theorem kinds_eq_zero (t : Ty) (h : kinds t = 0) : (∃ u, t = .optional u) ∨ ∃ hn cs, t = .union hn cs := by
  cases t with
  | optional u => exact .inl ⟨u, rfl⟩
  | union hn cs => exact .inr ⟨hn, cs, rfl⟩
  | prim p => cases p <;> simp [kinds, Prim.kinds] at h
  | enum b fl syms => cases fl <;> simp [kinds] at h
  | array t k => cases k <;> simp [kinds] at h
  | map k w => by_cases hs : isStringKey k = true <;> simp [kinds, hs] at h
  | _ => simp [kinds] at h

theorem toJ_ne_null_of_kinds (F : Fmt) (t : Ty) (v : Val) (ht : HasType t v = true) (hk : kinds t ≠ 0) :
    toJ F t v ≠ .null := by
  intro hn
  have := kinds_sub F t v ht hk
  rw [hn] at this
  exact kindOf_ne_zero .null (this.symm.trans (kinds_not_null t))

/-- `DisjBefore cs i m`: none of the first `i` cases of `cs` announces a JSON data type in `m` -/
def DisjBefore : Fields → Nat → Nat → Bool
  | _, 0, _ => true
  | .nil, _, _ => true
  | .cons _ t r, i + 1, m => (kinds t &&& m == 0) && DisjBefore r i m

theorem WFF_cons (n : String) (t : Ty) (r : Fields) : WFF (.cons n t r) = true ↔ WF t = true ∧ WFF r = true := by
  simp [WFF]

theorem casesOk_cons (n : String) (t : Ty) (r : Fields) : casesOk (.cons n t r) = true ↔ kinds t ≠ 0 ∧ casesOk r = true := by
  simp [casesOk]

theorem casesSimplified_cons (seen : Kinds) (n : String) (t : Ty) (r : Fields) :
    casesSimplified seen (.cons n t r) = true ↔ kinds t &&& seen = 0 ∧ casesSimplified (seen ||| kinds t) r = true := by
  simp [casesSimplified, disjoint]

theorem caseToJ_ne_null (F : Fmt) : ∀ (cs : Fields) (i : Nat) (x : Val), casesOk cs = true →
    HasCase cs i x = true → caseToJ F cs i x ≠ .null
  | .nil, _, _, _, h => by simp [HasCase] at h
  | .cons n t r, 0, x, hc, h => by
    rw [casesOk_cons] at hc
    exact toJ_ne_null_of_kinds F t x h hc.1
  | .cons n t r, i + 1, x, hc, h => by
    rw [casesOk_cons] at hc
    exact caseToJ_ne_null F r i x hc.2 h

/-- in a union written untagged, the JSON data type of the written case is announced by none of the cases before it
    (nor by what was `seen` before the cases: the null case) -/
theorem disjBefore_of_simplified (F : Fmt) : ∀ (cs : Fields) (seen i : Nat) (x : Val),
    casesSimplified seen cs = true → casesOk cs = true → HasCase cs i x = true →
    DisjBefore cs i (kindOf (caseToJ F cs i x)) = true ∧ seen &&& kindOf (caseToJ F cs i x) = 0
  | .nil, _, _, _, _, _, h => by simp [HasCase] at h
  | .cons n t r, seen, 0, x, hs, hc, h => by
    rw [casesSimplified_cons] at hs
    rw [casesOk_cons] at hc
    have hsub := kinds_sub F t x h hc.1
    refine ⟨rfl, ?_⟩
    simp only [caseToJ]
    rw [← hsub, Nat.and_comm (kindOf _), ← Nat.and_assoc, Nat.and_comm seen, hs.1, Nat.zero_and]
  | .cons n t r, seen, i + 1, x, hs, hc, h => by
    rw [casesSimplified_cons] at hs
    rw [casesOk_cons] at hc
    obtain ⟨h1, h2⟩ := disjBefore_of_simplified F r (seen ||| kinds t) i x hs.2 hc.2 h
    rw [Nat.and_or_distrib_right] at h2
    obtain ⟨h3, h4⟩ := Nat.or_eq_zero_iff.mp h2
    simp [DisjBefore, caseToJ, h1, h3, h4]

/-- none of the first `i` tags is `tag` -/
def TagNotBefore : Fields → Nat → List UInt8 → Bool
  | _, 0, _ => true
  | .nil, _, _ => true
  | .cons n _ r, i + 1, tag => (strBytes n != tag) && TagNotBefore r i tag

theorem caseTag_mem : ∀ (cs : Fields) (i : Nat) (x : Val), HasCase cs i x = true → caseTag cs i ∈ names cs
  | .nil, _, _, h => by simp [HasCase] at h
  | .cons n t r, 0, _, _ => by simp [caseTag, names]
  | .cons n t r, i + 1, x, h => by simp [caseTag, names, caseTag_mem r i x h]

theorem tagNotBefore_of_distinct : ∀ (cs : Fields) (i : Nat) (x : Val), distinct (names cs) = true → HasCase cs i x = true →
    TagNotBefore cs i (caseTag cs i) = true
  | .nil, _, _, _, h => by simp [HasCase] at h
  | .cons n t r, 0, _, _, _ => rfl
  | .cons n t r, i + 1, x, hd, h => by
    rw [names, distinct_cons] at hd
    simp only [TagNotBefore, caseTag, Bool.and_eq_true, bne_iff_ne, ne_eq]
    exact ⟨fun he => hd.1 (he ▸ caseTag_mem r i x h), tagNotBefore_of_distinct r i x hd.2 h⟩

/-- the test `fieldsToJ` makes inline on a nullable field's value; `fieldsToJ_cons` restates it through this name -/
def isNone : Val → Bool
  | .none => true
  | _ => false

/-- what `lookupKey` must find for every field of (a suffix of) a record -/
def Lookups (F : Fmt) : Fields → List Val → List (List UInt8 × J) → Prop
  | .cons n t r, v :: vs, kvs =>
    lookupKey (strBytes n) kvs = (if isNullable t && isNone v then none else some (toJ F t v)) ∧ Lookups F r vs kvs
  | _, _, _ => True

theorem fieldsToJ_cons (F : Fmt) (n : String) (t : Ty) (r : Fields) (v : Val) (vs : List Val) :
    fieldsToJ F (.cons n t r) (v :: vs) =
      if (isNullable t && isNone v) = true then fieldsToJ F r vs else (strBytes n, toJ F t v) :: fieldsToJ F r vs := by
  cases v <;> rfl

theorem lookupKey_fieldsToJ_notin (F : Fmt) : ∀ (fs : Fields) (vs : List Val) (k : List UInt8), k ∉ names fs →
    lookupKey k (fieldsToJ F fs vs) = none
  | .nil, _, _, _ | .cons _ _ _, [], _, _ => by simp [fieldsToJ, lookupKey]
  | .cons n t r, v :: vs, k, h => by
    rw [names, List.mem_cons, not_or] at h
    have ih := lookupKey_fieldsToJ_notin F r vs k h.2
    rw [fieldsToJ_cons]
    split
    · exact ih
    · rw [lookupKey, if_neg (fun he => h.1 he.symm), ih]

/-- `Lookups` asks only what `lookupKey` finds for the field names: an object that agrees on them with the written one will do -/
theorem lookups_of_agree (F : Fmt) : ∀ (fs : Fields) (vs : List Val) (kvs : List (List UInt8 × J)), distinct (names fs) = true →
    (∀ k ∈ names fs, lookupKey k kvs = lookupKey k (fieldsToJ F fs vs)) → Lookups F fs vs kvs
  | .nil, _, _, _, _ | .cons _ _ _, [], _, _, _ => by simp [Lookups]
  | .cons n t r, v :: vs, kvs, hd, h => by
    rw [names, distinct_cons] at hd
    simp only [Lookups]
    refine ⟨?_, lookups_of_agree F r vs kvs hd.2 fun k hk => ?_⟩
    · rw [h _ (by simp [names]), fieldsToJ_cons]
      split
      · exact lookupKey_fieldsToJ_notin F r vs _ hd.1
      · simp [lookupKey]
    · -- a later field's name is not this field's, so the member written for this field is passed over
      have hne : ¬ strBytes n = k := fun e => hd.1 (e ▸ hk)
      rw [h k (by simp [names, hk]), fieldsToJ_cons]
      split
      · rfl
      · simp [lookupKey, hne]

theorem toJ_ne_null (F : Fmt) (t : Ty) (v : Val) (hw : WF t = true) (hn : isNullable t = false) (ht : HasType t v = true) :
    toJ F t v ≠ .null := by
  by_cases hk : kinds t = 0
  · rcases kinds_eq_zero t hk with ⟨u, rfl⟩ | ⟨hn', cs, rfl⟩
    · simp [isNullable] at hn
    · -- a union without a null case: an untagged case is not null, a tagged one is an object
      simp [isNullable] at hn
      subst hn
      simp only [WF, Bool.and_eq_true] at hw
      obtain ⟨-, h⟩ | ⟨i, x, rfl, hc⟩ := hasType_union ht
      · contradiction
      simp only [toJ]
      split
      · exact caseToJ_ne_null F cs i x hw.2 hc
      · simp
  · exact toJ_ne_null_of_kinds F t v ht hk

theorem fromJ_optional (F : Fmt) (t : Ty) (j : J) (h : j ≠ .null) : fromJ F (.optional t) j = (fromJ F t j).map .some := by
  cases j <;> first | exact absurd rfl h | simp only [fromJ]

theorem fromJ_union_untagged (F : Fmt) (hn : Bool) (cs : Fields) (j : J) (h : j ≠ .null) (hs : unionSimplified hn cs = true) :
    fromJ F (.union hn cs) j = caseByKind F cs 0 j := by
  cases j <;> first | exact absurd rfl h | simp only [fromJ, hs, if_true]

theorem fromJ_union_tagged (F : Fmt) (hn : Bool) (cs : Fields) (tag : List UInt8) (j : J) (hs : ¬ unionSimplified hn cs = true) :
    fromJ F (.union hn cs) (.obj [(tag, j)]) = caseByTag F cs 0 tag j := by
  simp only [fromJ, hs, Bool.false_eq_true, if_false]

mutual
  theorem fromJ_toJ (F : Fmt) (hF : F.Ok) : ∀ (t : Ty) (v : Val), WF t = true → HasType t v = true →
      fromJ F t (toJ F t v) = some v
    | .prim p, v, _, ht => by
      simp only [HasType] at ht
      simp only [toJ, fromJ]
      exact primFromJ_primToJ F hF p v ht
    | .enum b fl syms, v, hw, ht => by
      obtain ⟨x, rfl, -⟩ := hasType_enum ht
      exact enum_round_trip F b fl syms hw x
    | .record fs, v, hw, ht => by
      simp only [WF, Bool.and_eq_true] at hw
      obtain ⟨vs, rfl, hf⟩ := hasType_record ht
      simp only [toJ, fromJ]
      rw [fieldsFromJ_spec F hF fs vs _ hw.2 hf (lookups_of_agree F fs vs _ hw.1 fun _ _ => rfl)]
      rfl
    | .optional t, v, hw, ht => by
      simp only [WF, Bool.and_eq_true, Bool.not_eq_true'] at hw
      obtain rfl | ⟨x, rfl, hx⟩ := hasType_optional ht
      · simp [toJ, fromJ]
      · simp only [toJ]
        rw [fromJ_optional F t _ (toJ_ne_null F t x hw.1 hw.2 hx), fromJ_toJ F hF t x hw.1 hx]
        rfl
    | .union hn cs, v, hw, ht => by
      simp only [WF, Bool.and_eq_true] at hw
      obtain ⟨⟨hdist, hwf⟩, hok⟩ := hw
      obtain ⟨rfl, rfl⟩ | ⟨i, x, rfl, hc⟩ := hasType_union ht
      · simp [toJ, fromJ]
      · simp only [toJ]
        by_cases hsimp : unionSimplified hn cs = true
        · rw [if_pos hsimp, fromJ_union_untagged F hn cs _ (caseToJ_ne_null F cs i x hok hc) hsimp,
            caseByKind_spec F hF cs 0 i x hwf hok hc (disjBefore_of_simplified F cs _ i x hsimp hok hc).1]
          simp
        · rw [if_neg hsimp, fromJ_union_tagged F hn cs _ _ hsimp,
            caseByTag_spec F hF cs 0 i x hwf hc (tagNotBefore_of_distinct cs i x hdist hc)]
          simp
    | .vector t len, v, hw, ht => by
      simp only [WF] at hw
      obtain ⟨vs, rfl, hlen, hall⟩ := hasType_vector ht
      have hl := fromList_jList (toJ F t) (fromJ F t) (HasType t) (fun x hx => fromJ_toJ F hF t x hw hx) vs hall
      simp only [toJ, fromJ]
      cases len with
      | none => simp [hl]
      | some n => simp [hl, jList_length, hlen n rfl]
    | .array t k, v, hw, ht => by
      simp only [WF] at hw
      obtain ⟨shape, vs, rfl, -, hdims, -, hall⟩ := hasType_array ht
      have hl := fromList_jList (toJ F t) (fromJ F t) (HasType t) (fun x hx => fromJ_toJ F hF t x hw hx) vs hall
      cases k with
      | fixed dims => simp [toJ, fromJ, hl, hdims dims rfl]
      | _ => simp only [toJ, fromJ, hl, intsOf_map]
    | .map kt vt, v, hw, ht => by
      simp only [WF, Bool.and_eq_true] at hw
      obtain ⟨kvs, rfl, hall⟩ := hasType_map ht
      by_cases hs : isStringKey kt = true
      · cases eq_of_isStringKey kt hs
        simp only [toJ, fromJ, hs, if_true]
        rw [fromStrObj_jStrObj (toJ F vt) (fromJ F vt) _ (HasType vt) hasType_string
          (fun x hx => fromJ_toJ F hF vt x hw.2 hx) kvs hall]
        rfl
      · simp only [toJ, fromJ, hs, Bool.false_eq_true, if_false]
        rw [fromPairs_jPairs (toJ F kt) (toJ F vt) (fromJ F kt) (fromJ F vt) (HasType kt) (HasType vt)
          (fun x hx => fromJ_toJ F hF kt x hw.1 hx) (fun x hx => fromJ_toJ F hF vt x hw.2 hx) kvs hall]
        rfl
  theorem fieldsFromJ_spec (F : Fmt) (hF : F.Ok) : ∀ (fs : Fields) (vs : List Val) (kvs : List (List UInt8 × J)),
      WFF fs = true → HasFields fs vs = true → Lookups F fs vs kvs → fieldsFromJ F fs kvs = some vs
    | .nil, vs, _, _, hf, _ => by
      cases vs <;> simp [HasFields] at hf
      simp [fieldsFromJ]
    | .cons n t r, [], _, _, hf, _ => by simp [HasFields] at hf
    | .cons n t r, v :: vs, kvs, hw, hf, hl => by
      rw [WFF_cons] at hw
      simp only [HasFields, Bool.and_eq_true] at hf
      simp only [Lookups] at hl
      have ih := fieldsFromJ_spec F hF r vs kvs hw.2 hf.2 hl.2
      simp only [fieldsFromJ, hl.1]
      by_cases hc : (isNullable t && isNone v) = true
      · rw [Bool.and_eq_true] at hc
        obtain rfl : v = .none := by
          unfold isNone at hc
          split at hc <;> first | rfl | exact absurd hc.2 Bool.false_ne_true
        simp [hc.1, isNone, ih]
      · simp only [hc, Bool.false_eq_true, if_false]
        simp [fromJ_toJ F hF t v hw.1 hf.1, ih]
  theorem caseByKind_spec (F : Fmt) (hF : F.Ok) : ∀ (cs : Fields) (i0 i : Nat) (x : Val),
      WFF cs = true → casesOk cs = true → HasCase cs i x = true → DisjBefore cs i (kindOf (caseToJ F cs i x)) = true →
      caseByKind F cs i0 (caseToJ F cs i x) = some (.case (i0 + i) x)
    | .nil, _, _, _, _, _, h, _ => by simp [HasCase] at h
    | .cons n t r, i0, 0, x, hw, hc, h, _ => by
      rw [WFF_cons] at hw
      rw [casesOk_cons] at hc
      simp only [HasCase] at h
      have hsub := kinds_sub F t x h hc.1
      have hnz : kinds t &&& kindOf (toJ F t x) ≠ 0 := by
        rw [Nat.and_comm, hsub]; exact kindOf_ne_zero _
      simp [caseByKind, caseToJ, hnz, fromJ_toJ F hF t x hw.1 h]
    | .cons n t r, i0, i + 1, x, hw, hc, h, hd => by
      rw [WFF_cons] at hw
      rw [casesOk_cons] at hc
      simp only [HasCase] at h
      simp only [caseToJ, DisjBefore, Bool.and_eq_true, beq_iff_eq] at hd
      have ih := caseByKind_spec F hF r (i0 + 1) i x hw.2 hc.2 h hd.2
      simp only [caseByKind, caseToJ, hd.1, ne_eq, not_true_eq_false, if_false]
      rw [ih]
      simp [Nat.add_assoc, Nat.add_comm 1 i]
  theorem caseByTag_spec (F : Fmt) (hF : F.Ok) : ∀ (cs : Fields) (i0 i : Nat) (x : Val),
      WFF cs = true → HasCase cs i x = true → TagNotBefore cs i (caseTag cs i) = true →
      caseByTag F cs i0 (caseTag cs i) (caseToJ F cs i x) = some (.case (i0 + i) x)
    | .nil, _, _, _, _, h, _ => by simp [HasCase] at h
    | .cons n t r, i0, 0, x, hw, h, _ => by
      rw [WFF_cons] at hw
      simp only [HasCase] at h
      simp [caseByTag, caseTag, caseToJ, fromJ_toJ F hF t x hw.1 h]
    | .cons n t r, i0, i + 1, x, hw, h, hd => by
      rw [WFF_cons] at hw
      simp only [HasCase] at h
      simp only [caseTag, TagNotBefore, Bool.and_eq_true, bne_iff_ne, ne_eq] at hd
      have ih := caseByTag_spec F hF r (i0 + 1) i x hw.2 h hd.2
      simp only [caseByTag, caseTag, caseToJ, hd.1, if_false]
      rw [ih]
      simp [Nat.add_assoc, Nat.add_comm 1 i]
end

end Yardl.Json
