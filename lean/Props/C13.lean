import YardlProofs.Syntax
import YardlGenerated.Tables
import YardlModel.WireJson
import Props.C14
import YardlProofs.Topo
import YardlProofs.TypeParser

/-!
# C13 — Alternative spellings of a model are the same model

Model (`YardlModel/Syntax.lean`): the shorthand AST `S` participle hands to `convertType`, the YAML
type node `Y` seen by `UnmarshalTypeYAML`, the tree `T` (`dsl.Type`) both build, and `norm`, the
view every later consumer takes (a single untagged case with no dimensionality *is* its case).
`isSpelling t y` is an executable checker: `y` is a shorthand, expanded or mixed spelling of the
surface type `t` (including `T?` vs `[null, T]`, `!generic` vs `Name<…>`, `!vector/!array/!map` vs
`*`, `[]`, `->`, `dimensions: n` vs `[,]`, redundant parentheses).

Proved here, for every surface type and all of its spellings:
* `spellings_build_the_same_tree` — any two spellings give the same tree, namely `tree t`.
* `shorthand_sound` — the same for the shorthand grammar alone.
* `primitive_names_resolve_to_themselves`, `documented_aliases`, `alias_resolution_idempotent`, `non_aliases_do_not_resolve` —
  over the alias table regenerated by *executing* `resolveTypes` of the current source on each candidate name.
* `equal_plans_equal_bytes` — restated from C14 (`bytes_depend_on_plan_only`). (That re-ordering and re-splitting leave the
  schema's type closure unchanged is C04's `closure_*`; nothing of it is stated here.)
* `accepted_definitions_are_in_dependency_order` — from the dependency sort (`Topo.sort_sorted`): the written order of the
  definitions does not matter to what is emitted after whom.
* `shorthand_text_is_read_back`, `printed_shorthand_builds_the_same_tree` — the text of a shorthand type: the parser of
  `YardlModel/TypeParser.lean` reads every canonical tree back from its printed tokens.

Tie (`checks/c13.py`): random surface types are spelled twice at random, rendered to YAML, parsed by
the real `UnmarshalTypeYAML` in-process; the raw tree must equal `convY` of the same node, both
spellings must satisfy `isSpelling`, and malformed nodes must be rejected by both. At artefact level:
packages re-spelled / re-ordered / re-split / re-commented must be accepted or rejected together,
pure respellings must give byte-identical C++/Python/MATLAB/JSON output, re-orderings identical
schemas and an importable, identically behaving Python package.
-/

namespace Yardl.C13
open Yardl Yardl.Syntax

theorem spellings_build_the_same_tree (t : Sur) (a b : Y) (ha : isSpelling t a = true) (hb : isSpelling t b = true) :
    sem a = some (tree t) ∧ sem b = some (tree t) ∧ sem a = sem b :=
  ⟨spelling_sound t a ha, spelling_sound t b hb, (spelling_sound t a ha).trans (spelling_sound t b hb).symm⟩

theorem shorthand_sound (t : Sur) (s : S) (h : isShort t s = true) : norm (convS s) = tree t :=
  short_sound t s h

/-- non-vacuity: `int?*3`, `!vector {items: [null, int], length: 3}`, `!vector {items: "(int)?", length: 3}`
    are accepted as three spellings of one type, so the theorem above applies to any two of them -/
example :
    let t : Sur := .vector (.opt (.named "int" .nil)) (some 3)
    let a : Y := .str (.named "int" .nil (.cons .optional (.cons (.vector (some 3)) .nil)))
    let b : Y := .vector (.seq (.cons .null (.cons (.str (.named "int" .nil .nil)) .nil))) (some 3)
    let c : Y := .vector (.str (.sub (.named "int" .nil .nil) (.cons .optional .nil))) (some 3)
    isSpelling t a = true ∧ isSpelling t b = true ∧ isSpelling t c = true := by
  simp [isSpelling, isShort, isShortL, unparen, S.unsnoc, Tails.unsnoc]

def lookupAlias (n : String) : Option Prim :=
  match Generated.primAliasTab.find? (fun e => e.1 == n) with
  | some (_, r) => r
  | none => none

/-- every canonical primitive name resolves to that primitive, in the current source -/
theorem primitive_names_resolve_to_themselves :
    ∀ p ∈ [Prim.bool, .int8, .int16, .int32, .int64, .uint8, .uint16, .uint32, .uint64, .size, .float32, .float64,
           .complexfloat32, .complexfloat64, .string, .date, .time, .datetime], lookupAlias p.name = some p := by
  decide +kernel

/-- the aliases the documentation lists (docs/python/language.md) denote exactly these primitives -/
theorem documented_aliases :
    lookupAlias "byte" = some .uint8 ∧ lookupAlias "int" = some .int32 ∧ lookupAlias "uint" = some .uint32 ∧
    lookupAlias "long" = some .int64 ∧ lookupAlias "ulong" = some .uint64 ∧ lookupAlias "float" = some .float32 ∧
    lookupAlias "double" = some .float64 ∧ lookupAlias "complexfloat" = some .complexfloat32 ∧
    lookupAlias "complexdouble" = some .complexfloat64 := by
  decide +kernel

/-- a name that resolves at all resolves to a primitive whose own name resolves to it (idempotence) -/
theorem alias_resolution_idempotent :
    ∀ e ∈ Generated.primAliasTab, ∀ p, e.2 = some p → lookupAlias p.name = some p := by
  decide +kernel

/-- names differing in case or not in the table are not primitives (spelling is exact) -/
theorem non_aliases_do_not_resolve : lookupAlias "Int32" = none ∧ lookupAlias "INT" = none ∧ lookupAlias "integer" = none := by
  decide +kernel

/-- re-ordering definitions or fields, and adding unreferenced definitions, leave the schema's type
    closure unchanged (C04), and equal plans mean equal bytes (C14) -/
theorem equal_plans_equal_bytes (t₁ t₂ : Ty) (h : Plan.erase t₁ = Plan.erase t₂) :
    (∀ v, enc t₁ v = enc t₂ v) ∧ (∀ bs, dec t₁ bs = dec t₂ bs) :=
  C14.bytes_depend_on_plan_only t₁ t₂ h

/-- whatever order the definitions are written in, an accepted namespace is emitted with every definition
    after all definitions it mentions (`Topo.sort` = topologicalSortTypes), and all written definitions are emitted -/
theorem accepted_definitions_are_in_dependency_order (deps : Topo.Deps) (fuel : Nat) (written order : List Nat)
    (h : Topo.sort deps fuel written = some order) : Topo.Sorted deps order ∧ ∀ d ∈ written, d ∈ order :=
  Topo.sort_sorted deps fuel written order h

/-! ### the text of a shorthand type: scanner tokens → `S` (participle grammar of typeparser.go) -/

/-- every canonical shorthand tree (any nesting of names with type arguments, parenthesised sub-types, `?`, `*`, `*n`,
    `[dims]`, `->value` — a map value swallows the tails after it, lengths fit `uint64`, a dimension name is a single
    identifier without a dot, a single dimension is not the empty one) is read back from its printed token sequence by the recursive-descent parser, with the fuel `parse`
    supplies -/
theorem shorthand_text_is_read_back (s : S) (h : TypeParser.canon s = true) :
    TypeParser.parse (TypeParser.pr s) = some s :=
  TypeParser.parse_pr s h

/-- … so printing a shorthand type and parsing it again builds the tree `convertType` builds for the original -/
theorem printed_shorthand_builds_the_same_tree (s : S) (h : TypeParser.canon s = true) :
    (TypeParser.parse (TypeParser.pr s)).map convS = some (convS s) := by
  rw [TypeParser.parse_pr s h]; rfl

/-- the hypothesis is met by `Map<a.B, int?>*3->(x[2, y:3])?[]`; and what the parser returns for it is that tree -/
example :
    let s : S := .named "Map" (.cons (.named "a.B" .nil .nil) (.cons (.named "int" .nil (.cons .optional .nil)) .nil))
      (.cons (.vector (some 3)) (.cons (.mapValue (.sub (.named "x" .nil (.cons (.array [⟨none, some 2⟩, ⟨some "y", some 3⟩]) .nil))
        (.cons .optional (.cons (.array []) .nil)))) .nil))
    TypeParser.canon s = true := by decide

/-- why `canon` asks a map value to be the last tail: `a->b?` is read as a map to `b?`, never as an optional map -/
example : TypeParser.parse [.ident "a", .sym '-', .sym '>', .ident "b", .sym '?']
    = some (.named "a" .nil (.cons (.mapValue (.named "b" .nil (.cons .optional .nil))) .nil)) := by
  simp [TypeParser.parse, TypeParser.pType, TypeParser.pArgsOpt, TypeParser.pTails]

end Yardl.C13
