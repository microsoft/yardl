import YardlProofs.ConvRefl
import YardlProofs.EvolutionClasses

/-!
  YardlProofs.ConvClasses — what the generated conversions do to the values for two of the documented classes of
  docs/cpp/evolution.md (the classes are stated in Props/C05.lean), for all well-formed types and every value of them.

  A field is added to a record: from `convFields_ok`, the fields the two versions share convert to themselves and the
  added one is the only destination field without a source.

  A type joins or leaves a union: the type goes to the first case it is compatible with (`firstCase_at`), so
  `wrap_union`, `unwrap_union` and the round trip `union_round_trip`, for simple types (`isSimple`: primitive, enum,
  record of any depth).
-/

namespace Yardl.Evo
open Yardl

/-- the fields the two versions share convert to themselves, whatever else the source record holds -/
theorem shared_fields_convert (reading : Bool) (fuel : Nat) (fs : List (Nat × ETy)) (vs : List Val)
    (hw : ∀ e ∈ fs, wfT e.2 = true ∧ depth e.2 ≤ fuel) (hfit : fitsF (fieldsOfList fs) vs = true)
    {svals : List ((Nat × ETy) × Val)} (hd : svals.Pairwise (fun a b => a.1.1 ≠ b.1.1)) (hsub : ∀ p ∈ fs.zip vs, p ∈ svals) :
    ∀ p ∈ fs.zip vs, convField (conv reading fuel) svals p.1 = .ok p.2 := fun p hp => by
  have hm := hw p.1 (List.of_mem_zip hp).1
  rw [convField_of_mem _ hd (hsub p hp)]
  exact conv_self reading fuel p.1.2 p.2 hm.1 (((fitsF_iff _ vs).mp hfit).2 p (by simpa using hp)) hm.2

/-- a previous-version record read by the version that added a field: every old field keeps its value, the
    added field gets its zero value -/
theorem added_field_read (fuel : Nat) (r : Nat) (fs : List (Nat × ETy)) (n : Nat) (t : ETy) (vs : List Val)
    (hd : namesDistinct fs = true) (hfresh : ∀ e ∈ fs, e.1 ≠ n)
    (hw : ∀ e ∈ fs, wfT e.2 = true ∧ depth e.2 ≤ fuel) (hfit : fitsF (fieldsOfList fs) vs = true) :
    conv true (fuel + 1) (.record r (fieldsOfList fs)) (.record r (fieldsOfList (fs ++ [(n, t)]))) (.record vs)
      = .ok (.record (vs ++ [zero (depth t + 1) t])) := by
  have hlen : vs.length = fs.length := by simpa using ((fitsF_iff _ vs).mp hfit).1
  have h := convFields_ok (conv true fuel) (fs.zip vs) (fs.zip vs ++ [((n, t), zero (depth t + 1) t)]) []
    (List.forall_mem_append.mpr
      ⟨shared_fields_convert true fuel fs vs hw hfit (zip_namesDistinct vs hd) (fun _ h => h),
       List.forall_mem_singleton.mpr (convField_absent _ _ (n, t) (fun q hq => hfresh q.1 (List.of_mem_zip hq).1))⟩)
  simp only [List.map_append, List.map_fst_zip (Nat.le_of_eq hlen.symm), List.map_snd_zip (Nat.le_of_eq hlen), List.map_cons,
    List.map_nil, List.reverse_nil, List.nil_append] at h
  simp only [conv_record, toList_fieldsOfList, h]

/-- a value of the version that added a field, written for the previous version: the added field is dropped,
    every other field keeps its value -/
theorem added_field_write (fuel : Nat) (r : Nat) (fs : List (Nat × ETy)) (n : Nat) (t : ETy) (vs : List Val) (x : Val)
    (hd : namesDistinct fs = true) (hfresh : ∀ e ∈ fs, e.1 ≠ n)
    (hw : ∀ e ∈ fs, wfT e.2 = true ∧ depth e.2 ≤ fuel) (hfit : fitsF (fieldsOfList fs) vs = true) :
    conv false (fuel + 1) (.record r (fieldsOfList (fs ++ [(n, t)]))) (.record r (fieldsOfList fs)) (.record (vs ++ [x]))
      = .ok (.record vs) := by
  have hlen : vs.length = fs.length := by simpa using ((fitsF_iff _ vs).mp hfit).1
  have h := convFields_ok (conv false fuel) ((fs ++ [(n, t)]).zip (vs ++ [x])) (fs.zip vs) []
    (shared_fields_convert false fuel fs vs hw hfit (zip_namesDistinct _ (namesDistinct_append_fresh fs (n, t) hd hfresh))
      (fun p hp => by rw [List.zip_append hlen.symm]; exact List.mem_append_left _ hp))
  simp only [List.map_fst_zip (Nat.le_of_eq hlen.symm), List.map_snd_zip (Nat.le_of_eq hlen), List.reverse_nil,
    List.nil_append] at h
  simp only [conv_record, toList_fieldsOfList, h]

/-- data written by previous-version software survives the trip through the version that added a field -/
theorem added_field_round_trip (fuel : Nat) (r : Nat) (fs : List (Nat × ETy)) (n : Nat) (t : ETy) (vs : List Val)
    (hd : namesDistinct fs = true) (hfresh : ∀ e ∈ fs, e.1 ≠ n)
    (hw : ∀ e ∈ fs, wfT e.2 = true ∧ depth e.2 ≤ fuel) (hfit : fitsF (fieldsOfList fs) vs = true) :
    (match conv true (fuel + 1) (.record r (fieldsOfList fs)) (.record r (fieldsOfList (fs ++ [(n, t)]))) (.record vs) with
     | .ok v => conv false (fuel + 1) (.record r (fieldsOfList (fs ++ [(n, t)]))) (.record r (fieldsOfList fs)) v
     | e => e) = .ok (.record vs) := by
  rw [added_field_read fuel r fs n t vs hd hfresh hw hfit]
  exact added_field_write fuel r fs n t vs _ hd hfresh hw hfit

/-- a type that is neither optional, union nor dimensioned (what compareTypes calls a SimpleType) -/
def isSimple : ETy → Bool
  | .prim _ | .enum _ _ _ _ | .record _ _ => true
  | _ => false

theorem isScalarGen_of_simple {t : ETy} (hs : isSimple t = true) : isScalarGen t = false := by
  cases t <;> first | rfl | simp [isSimple] at hs

/-- the first case a type matches, when no earlier case matches it, is the case that holds the type itself -/
theorem firstCase_at (g : ETy → Cls) : ∀ (pre post : List (Option ETy)) (t : ETy) (s : Nat),
    (∀ u, some u ∈ pre → (g u).matches = false) → (g t).matches = true →
    firstCase g (pre ++ some t :: post) s = some (s + pre.length)
  | [], post, t, s, _, ht => by simp [firstCase, ht]
  | none :: p, post, t, s, h, ht => by
    rw [List.cons_append, firstCase, firstCase_at g p post t (s + 1) (fun u hu => h u (by simp [hu])) ht, List.length_cons]
    congr 1; omega
  | some u :: p, post, t, s, h, ht => by
    rw [List.cons_append, firstCase, if_neg (by simp [h u (by simp)]),
      firstCase_at g p post t (s + 1) (fun u hu => h u (by simp [hu])) ht, List.length_cons]
    congr 1; omega

theorem getD_at (pre post : List (Option ETy)) (t : ETy) :
    (pre ++ some t :: post).getD pre.length none = some t := by
  simp [List.getD]

/-- a value of `T` read / written where a union is expected that lists `T` (and no earlier case that
    `T` is compatible with): the union holds the value in `T`'s case -/
theorem wrap_union (reading : Bool) (fuel : Nat) (t : ETy) (v : Val) (cs : ECases) (pre post : List (Option ETy))
    (hs : isSimple t = true) (hw : wfT t = true) (hv : fitsT t v = true) (h : depth t ≤ fuel)
    (hcs : cs.toList = pre ++ some t :: post)
    (hpre : ∀ u, some u ∈ pre → (kcmp reading t u).matches = false) :
    conv reading (fuel + 1) t (.union cs) v = .ok (.case (ofFull cs.toList pre.length) v) := by
  have hfc := firstCase_at (fun u => kcmp reading t u) pre post t 0 hpre (by simp [kcmp_self reading t hw, Cls.matches])
  rw [conv_to_union reading fuel t cs v (isScalarGen_of_simple hs), hcs, hfc]
  simp only [Nat.zero_add, getD_at, Option.getD_some, conv_self reading fuel t v hw hv h, CRes.map]

/-- a union that holds its `T` case, read / written where `T` is expected: the value itself;
    a union that holds another case: the zero value of `T` -/
theorem unwrap_union (reading : Bool) (fuel : Nat) (t : ETy) (i : Nat) (x : Val) (cs : ECases) (pre post : List (Option ETy))
    (hs : isSimple t = true) (hw : wfT t = true)
    (hcs : cs.toList = pre ++ some t :: post)
    (hpre : ∀ u, some u ∈ pre → (kcmp reading u t).matches = false) :
    conv reading (fuel + 1) (.union cs) t (.case i x) =
      if toFull cs.toList i = pre.length then conv reading fuel t t x else .ok (zero (depth t + 1) t) := by
  have hfc := firstCase_at (fun u => kcmp reading u t) pre post t 0 hpre (by simp [kcmp_self reading t hw, Cls.matches])
  rw [conv_from_union reading fuel cs t i x (isScalarGen_of_simple hs), hcs, hfc]
  simp only [Nat.zero_add, getD_at, Option.getD_some]

/-- old data of type `T`, read by the version whose type is a union listing `T`, and written back for the
    old version, is unchanged. `hnull` is the trace of an assumption the model leaves unstated: a null case, if any, is
    the FIRST case of a union (`toFull`, `ofFull` and the `drop 1` in `cmp` / `conv` rely on it), so in a union with a
    null case `T` does not stand at position 0 -/
theorem union_round_trip (fuel : Nat) (t : ETy) (v : Val) (cs : ECases) (pre post : List (Option ETy))
    (hs : isSimple t = true) (hw : wfT t = true) (hv : fitsT t v = true) (h : depth t ≤ fuel)
    (hcs : cs.toList = pre ++ some t :: post)
    (hpre : ∀ u, some u ∈ pre → (kcmp true t u).matches = false)
    (hpre' : ∀ u, some u ∈ pre → (kcmp false u t).matches = false)
    (hnull : hasNullL cs.toList = true → pre ≠ []) :
    (match conv true (fuel + 1) t (.union cs) v with
     | .ok w => conv false (fuel + 1) (.union cs) t w
     | e => e) = .ok v := by
  rw [wrap_union true fuel t v cs pre post hs hw hv h hcs hpre]
  simp only
  rw [unwrap_union false fuel t _ v cs pre post hs hw hcs hpre']
  have hfull := toFull_ofFull cs.toList (fun hn => List.length_pos_iff.mpr (hnull hn))
  simp [hfull, conv_self false fuel t v hw hv h]

end Yardl.Evo
