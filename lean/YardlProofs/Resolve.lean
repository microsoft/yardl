import YardlModel.Resolve
import YardlProofs.ListLemmas

/-! `allRefs` / `visible`: what they return is imported (every graph, any fuel); on acyclic graphs with enough fuel they return
    everything imported, because the list they build is closed under references. -/

namespace Yardl.Resolve

theorem allRefs_ext (refs : Nat → List Nat) : ∀ (f n : Nat) (acc : List Nat), ∃ added, allRefs refs f n acc = acc ++ added
  | 0, _, acc => ⟨[], by simp [allRefs]⟩
  | f + 1, n, acc => by
    simp only [allRefs]
    refine List.foldl_prefix (motive := fun _ a => ∃ added, a = acc ++ added) ⟨[], by simp⟩ ?_
    intro pre r post a _ ⟨ad, e⟩
    split
    · exact ⟨ad, e⟩
    · obtain ⟨ad', e'⟩ := allRefs_ext refs f r a
      exact ⟨ad ++ (ad' ++ [r]), by rw [e', e]; simp⟩

theorem allRefs_direct (refs : Nat → List Nat) (f n : Nat) (acc : List Nat) (m : Nat) (h : m ∈ refs n) :
    m ∈ allRefs refs (f + 1) n acc := by
  simp only [allRefs]
  refine List.foldl_prefix (motive := fun pre a => ∀ i ∈ pre, i ∈ a) (by simp) ?_ m h
  intro pre r post a _ hm i hi
  rcases List.mem_append.1 hi with hi | hi
  · split
    · exact hm i hi
    · obtain ⟨ad, e⟩ := allRefs_ext refs f r a
      rw [e]
      exact List.mem_append_left _ (List.mem_append_left _ (hm i hi))
  · rw [List.mem_singleton.1 hi]
    split
    · rename_i hc; simpa using hc
    · simp

theorem allRefs_sound (refs : Nat → List Nat) : ∀ (f n : Nat) (acc : List Nat) (m : Nat),
    m ∈ allRefs refs f n acc → m ∈ acc ∨ Reach refs n m
  | 0, _, _, _, h => Or.inl h
  | f + 1, n, acc, m, h => by
    simp only [allRefs] at h
    revert h
    refine List.foldl_prefix (motive := fun _ a => m ∈ a → m ∈ acc ∨ Reach refs n m) Or.inl ?_
    intro pre r post a e ih hm
    have hr : r ∈ refs n := by rw [e]; simp
    split at hm
    · exact ih hm
    · rcases List.mem_append.1 hm with h2 | h2
      · rcases allRefs_sound refs f r a m h2 with h3 | h3
        · exact ih h3
        · exact Or.inr (Reach.step hr h3)
      · rw [List.mem_singleton.1 h2]; exact Or.inr (Reach.direct hr)

theorem allRefs_nil_sound (refs : Nat → List Nat) (f n m : Nat) (h : m ∈ allRefs refs f n []) : Reach refs n m :=
  (allRefs_sound refs f n [] m h).resolve_left List.not_mem_nil

theorem visible_sound (refs : Nat → List Nat) (fuel n m : Nat) (h : m ∈ visible refs fuel n) : m = n ∨ Reach refs n m :=
  (List.mem_cons.1 h).imp_right (allRefs_nil_sound refs fuel n m)

theorem resolve_some {defs : List (Nat × Nat)} {vis : List Nat} {cur : Nat} {nm : Name} {m t : Nat}
    (h : resolve defs vis cur nm = some (m, t)) : m ∈ vis ∧ (m, t) ∈ defs := by
  -- either form of name succeeds only under the guard `vis.contains m && defs.contains (m, t)`
  cases nm <;> simp only [resolve] at h <;> split at h <;> cases h <;> rename_i hc <;> simpa using hc

theorem resolve_qual {defs : List (Nat × Nat)} {vis : List Nat} (cur : Nat) {m t : Nat} (hv : m ∈ vis) (hd : (m, t) ∈ defs) :
    resolve defs vis cur (.qual m t) = some (m, t) := by
  simp [resolve, hv, hd]

/-- the defect that was there (3dc19f7): with the whole table visible to everybody, `B` resolved `C.T` although it does not
    import `C` — in the world `App → [B, C]`, `B → []` -/
example :
    let refs : Nat → List Nat := fun n => if n = 0 then [1, 2] else []
    resolve [(2, 7)] [0, 1, 2] 1 (.qual 2 7) = some (2, 7) ∧ resolve [(2, 7)] (visible refs 5 1) 1 (.qual 2 7) = none := by
  decide

/-! ### completeness: everything imported, directly or through imports, is visible (acyclic graphs, enough fuel) -/

/-- closed under references: then whatever is reached from a member is a member (`reach_mem_of_closed`) -/
def Closed (refs : Nat → List Nat) (l : List Nat) : Prop := ∀ m ∈ l, ∀ i ∈ refs m, i ∈ l

/-- what one call of `allRefs` does -/
structure AllSpec (refs : Nat → List Nat) (acc res : List Nat) (n : Nat) : Prop where
  /-- the call only appends -/
  ext : ∃ added, res = acc ++ added
  /-- every direct reference of `n` is returned -/
  children : ∀ i ∈ refs n, i ∈ res
  /-- a list closed under references stays closed -/
  closed : Closed refs acc → Closed refs res

theorem Closed.snoc {refs : Nat → List Nat} {l : List Nat} {r : Nat} (h : Closed refs l) (hr : ∀ i ∈ refs r, i ∈ l) :
    Closed refs (l ++ [r]) := by
  intro m hm i hi
  rcases List.mem_append.1 hm with h1 | h1
  · exact List.mem_append_left _ (h m h1 i hi)
  · have : m = r := by simpa using h1
    subst this
    exact List.mem_append_left _ (hr i hi)

theorem allRefs_spec (refs : Nat → List Nat) (rank : Nat → Nat) (hr : ∀ n, ∀ i ∈ refs n, rank i < rank n) :
    ∀ (f n : Nat) (acc : List Nat), rank n < f → AllSpec refs acc (allRefs refs f n acc) n
  | 0, _, _, h => by omega
  | f + 1, n, acc, hf => by
    refine ⟨allRefs_ext refs _ n acc, fun i hi => allRefs_direct refs f n acc i hi, ?_⟩
    simp only [allRefs]
    refine List.foldl_prefix (motive := fun _ a => Closed refs acc → Closed refs a) id ?_
    intro pre r post a e ih h
    split
    · exact ih h
    · have spec := allRefs_spec refs rank hr f r a (by have := hr n r (by rw [e]; simp); omega)
      exact (spec.closed (ih h)).snoc spec.children

theorem reach_mem_of_closed (refs : Nat → List Nat) (l : List Nat) (hc : Closed refs l) :
    ∀ {x m : Nat}, Reach refs x m → (∀ i ∈ refs x, i ∈ l) → m ∈ l := by
  intro x m h
  induction h with
  | direct hm => intro hx; exact hx _ hm
  | step hr _ ih => intro hx; exact ih (hc _ (hx _ hr))

theorem visible_complete (refs : Nat → List Nat) (rank : Nat → Nat) (hr : ∀ n, ∀ i ∈ refs n, rank i < rank n)
    (fuel n m : Nat) (hf : rank n < fuel) (h : Reach refs n m) : m ∈ visible refs fuel n :=
  have s := allRefs_spec refs rank hr fuel n [] hf
  List.mem_cons_of_mem _ (reach_mem_of_closed refs _ (s.closed (by intro m hm; cases hm)) h s.children)

end Yardl.Resolve
