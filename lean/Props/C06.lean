import YardlModel.Evolution
import YardlProofs.EvolutionRefl
import YardlProofs.EvolutionClasses
import YardlGenerated.Tables

/-!
# C06 — Schema-evolution verdicts are total, reflexive and match the documented classes

Model: `YardlModel/Evolution.lean` — the structural core of change detection on resolved types with
nominal records/enums (`cmp` = compareTypes and the detect*Changes family, `recordChange`,
`enumChange`, `unionChange` = the greedy matching of detectUnionChanges), the messages of
validateTypeDefinitionChanges (`recordSev`, `enumSev`, `defsSev`) and validateProtocolChanges
(`protoVerdict`).

Proved here:
* `verdict_total` — the verdict is a total function (the model terminates on every pair of types);
  that the *tool* neither panics nor diverges is decided by the differential run.
* `primitive_change_table` — `primChange` agrees, on all 324 ordered pairs, with the table obtained by
  *executing* ValidateEvolution of the current source on one-step protocols (regenerated every run).
* `primitive_change_classes` — the documented classes on primitives: identical = silent; integers,
  floating point numbers and strings convert into each other with a warning; complex to complex with
  a warning; everything else is rejected.
* `primitive_change_error_symmetric` — a pair is rejected in one direction iff in the other (both
  conversions are generated).
* `wrappers_preserve_errors` — a change inside a stream, vector or optional is an error exactly when
  the inner change is; an unchanged inner type stays unchanged.
* `compare_reflexive` — a type compared with itself is unchanged, for **every** well-formed type
  (`wfT`: distinct field names per record, distinct symbols per enum, non-empty unions — what the
  validator enforces), at any nesting depth: records field by field, enums symbol by symbol, unions
  through the greedy first-fit matching of detectUnionChanges (which pairs every case with itself).
  `well_formedness_is_needed`: without distinct field names the statement is false of the model.
* `identical_versions_are_silent` — a protocol with distinct step names and well-formed step types,
  compared with itself, gets the verdict `ok` (no warning, no error), whatever definitions the new
  version has. The driver reports for every generated version pair whether it satisfies these hypotheses.
* the documented classes of docs/cpp/evolution.md, for **every** well-formed type / protocol (not sample shapes):
  `removing_a_step_is_rejected`; `appending_a_step` (silent iff the step can be empty, else rejected);
  `optional_and_mandatory` (scalar <-> optional: warning, both ways) with `dimensioned_optional_rejected`
  (vectors / arrays / maps: rejected — the open finding of this property, as a theorem of the model);
  `union_case_added_or_removed` (warning, both ways); `adding_a_field` / `removing_a_field` of a record a
  step uses (silent when the field is nullable, warning otherwise; for records whose fields mention no
  other definition, so that the verdict does not depend on the rest of the two versions); `reordering_fields`
  (any permutation: silent); `inserting_a_step` (anywhere); `moving_a_step_is_rejected`;
  `changing_an_enum_definition` (base, enum/flags, removed or renumbered symbol: rejected) and
  `adding_enum_symbols_is_silent`; `scalar_to_vector_or_array` (rejected, both ways); `changing_type_arguments`
  (count or value: rejected); `optional_and_union` (warning, both ways); `reordering_union_cases` (any permutation:
  no message).
-/

namespace Yardl.C06
open Yardl Yardl.Evo

theorem verdict_total (env : Env) (new old : ETy) : ∃ s, stepVerdict env new old = s := ⟨_, rfl⟩

/-- the code of a class in `Generated.primChangeTab` (harness/py/gen_tables.py): 0 silent, 1 warning, 2 error — the
    verdict of `dsl.ValidateEvolution` executed on a one-step protocol whose type changes between two primitives
    (3, a panic, is matched by no class: a row with it would refute `primitive_change_table`) -/
def sevOfCls : Cls → Nat
  | .same => 0 | .defChanged => 0 | .silent => 0 | .warn => 1 | .error => 2

theorem primitive_change_table :
    ∀ e ∈ Generated.primChangeTab, sevOfCls (primChange e.1 e.2.1) = e.2.2 := by
  decide +kernel

theorem primitive_change_table_complete : Generated.primChangeTab.length = 18 * 18 := by decide +kernel

theorem primitive_change_classes (a b : Prim) :
    primChange a a = .same ∧
    (a ≠ b → (pkind a).isNumber ∨ a = .string → (pkind b).isNumber ∨ b = .string → primChange a b = .warn) ∧
    (a ≠ b → pkind a = .complex → pkind b = .complex → primChange a b = .warn) ∧
    (a ≠ b → (pkind a = .bool ∨ pkind a = .date ∨ pkind a = .time ∨ pkind a = .datetime) → primChange a b = .error ∧ primChange b a = .error) := by
  refine ⟨if_pos rfl, fun h => ?_, fun h ha hb => ?_, fun h ha => ?_⟩
  · -- two different types are not both `string`: all of `a ≠ b` that is left once only the kinds are looked at
    have hs : ¬(pkind a = .string ∧ pkind b = .string) := fun ⟨ha, hb⟩ =>
      h (((eq_string_iff a).mpr ha).trans ((eq_string_iff b).mpr hb).symm)
    simp only [primChange_of_ne h, eq_string_iff]
    revert hs
    generalize pkind a = k, pkind b = k'
    cases k <;> cases k' <;> decide
  · rw [primChange_of_ne h, ha, hb]; rfl
  · rw [primChange_of_ne h, primChange_of_ne (Ne.symm h)]
    rcases ha with ha | ha | ha | ha <;> rw [ha] <;> cases pkind b <;> exact ⟨rfl, rfl⟩

theorem primitive_change_error_symmetric (a b : Prim) : primChange a b = .error ↔ primChange b a = .error := by
  by_cases h : a = b
  · rw [h]
  · rw [primChange_of_ne h, primChange_of_ne (Ne.symm h)]
    generalize pkind a = k, pkind b = k'
    cases k <;> cases k' <;> decide

theorem wrappers_preserve_errors (c : Cls) : (c.wrap = .error ↔ c = .error) ∧ (c.wrap = .same ↔ c = .same) ∧ (c.wrap.sev = .err ↔ c.sev = .err) := by
  cases c <;> decide

theorem compare_reflexive (t : ETy) (fuel : Nat) (hw : wfT t = true) (h : depth t ≤ fuel) : cmp fuel t t = .same :=
  cmp_self fuel t hw h

/-- the hypothesis is met by a nested type: record, union with a null case, enum, map, vector, optional, array (no
    generic instance, no type parameter) -/
example : wfT (.record 1 (.cons 10 (.union (.null (.cons (.prim .int32) (.cons (.enum 2 false .int32 [(5, 0), (6, 1)]) .nil))))
    (.cons 11 (.map (.prim .string) (.vector (.optional (.array (.prim .float32) .dynamic)) none)) .nil))) = true := by decide

/-- and it is needed: a record that declares the field `10` twice does not compare as unchanged with itself -/
theorem well_formedness_is_needed :
    cmp 5 (.record 1 (.cons 10 (.prim .int32) (.cons 10 (.prim .string) .nil)))
          (.record 1 (.cons 10 (.prim .int32) (.cons 10 (.prim .string) .nil))) = .defChanged := by decide

theorem identical_versions_are_silent (env : Env) (steps : List EStep) (hw : wfSteps steps = true) :
    protoVerdict env steps steps = .ok := by
  obtain ⟨hd, hw⟩ := (wfSteps_iff steps).mp hw
  have := protoLoop_mid env steps hd hw [] .ok steps [] [] (by simp)
  simpa [protoVerdict, nothing_removed hd (fun _ h => h), protoLoop] using this

example : wfSteps [⟨1, .prim .int32, false⟩, ⟨2, .record 1 (.cons 10 (.optional (.prim .string)) .nil), true⟩] = true := by decide

theorem removing_a_step_is_rejected (env : Env) (new old : List EStep) (o : EStep) (ho : o ∈ old)
    (hgone : findStep new o.name = none) : protoVerdict env new old = .err := by
  have hrem : (old.any fun o => (findStep new o.name).isNone) = true := by
    simp only [List.any_eq_true]
    exact ⟨o, ho, by simp [hgone]⟩
  simp [protoVerdict, hrem, protoLoop_err]

theorem optional_and_mandatory (fuel : Nat) (t : ETy) (hw : wfT t = true) (hs : plainScalar t = true) (h : depth t ≤ fuel) :
    cmp (fuel + 1) (.optional t) t = .warn ∧ cmp (fuel + 1) t (.optional t) = .warn := by
  simp only [plainScalar, Bool.and_eq_true, Bool.not_eq_true'] at hs
  simp [cmp_optional_nongen fuel t t hs.2, cmp_nongen_optional fuel t t hs.2, hs.1, cmp_self fuel t hw h, Cls.matches]

/-- the open C06 finding: the comparison answers `error` although the documentation lists the change as partially compatible -/
theorem dimensioned_optional_rejected (fuel : Nat) (t : ETy) (hd : isDim t = true) :
    cmp (fuel + 1) (.optional t) t = .error ∧ cmp (fuel + 1) t (.optional t) = .error := by
  have hs : isScalarGen t = false := by cases t <;> first | rfl | simp [isDim] at hd
  simp [cmp_optional_nongen fuel t t hs, cmp_nongen_optional fuel t t hs, hd]

theorem union_case_added_or_removed (fuel : Nat) (l : List (Option ETy)) (c : Option ETy) (hne : l ≠ [])
    (hw : ∀ t, some t ∈ l → wfT t = true ∧ depth t ≤ fuel) :
    cmp (fuel + 1) (.union (casesOfList (l ++ [c]))) (.union (casesOfList l)) = .warn ∧
    cmp (fuel + 1) (.union (casesOfList l)) (.union (casesOfList (l ++ [c]))) = .warn :=
  Evo.union_case_added_or_removed fuel l c hne hw

theorem adding_a_field (r : Nat) (fs : List (Nat × ETy)) (n : Nat) (t : ETy)
    (hd : namesDistinct fs = true) (hfresh : ∀ e ∈ fs, e.1 ≠ n)
    (hw : ∀ e ∈ fs, wfT e.2 = true) (hdf : ∀ e ∈ fs, defFree e.2 = true) :
    stepVerdict [(r, .record r (fieldsOfList (fs ++ [(n, t)])))]
      (.record r (fieldsOfList (fs ++ [(n, t)]))) (.record r (fieldsOfList fs))
    = if isNullable t then .ok else .warn := by
  have hd' := namesDistinct_append_fresh fs (n, t) hd hfresh
  have hnone := lookupField_none_of_fresh fs n hfresh
  obtain ⟨K, -, hK, hv⟩ := record_step_verdict r (fs ++ [(n, t)]) fs hdf
  rw [hv, recordChange_of_missing _ (.inl ⟨(n, t), by simp, hnone⟩), if_neg nofun,
    recordSev_of_kept _ _ fs hd' (fun e he => Or.inl (List.mem_append_left _ he))
      (fun e he _ => cmp_self_field hw (Nat.le_succ_of_le hK) e he),
    missing_of_extended fs n t hd hfresh, none_missing hd' (fun e he => List.mem_append_left _ he)]
  cases isNullable t <;> rfl

theorem removing_a_field (r : Nat) (fs : List (Nat × ETy)) (n : Nat) (t : ETy)
    (hd : namesDistinct fs = true) (hfresh : ∀ e ∈ fs, e.1 ≠ n)
    (hw : ∀ e ∈ fs, wfT e.2 = true) (hdf : ∀ e ∈ fs, defFree e.2 = true) (htd : defFree t = true) :
    stepVerdict [(r, .record r (fieldsOfList fs))]
      (.record r (fieldsOfList fs)) (.record r (fieldsOfList (fs ++ [(n, t)])))
    = if isNullable t then .ok else .warn := by
  have hnone := lookupField_none_of_fresh fs n hfresh
  obtain ⟨K, hK, -, hv⟩ := record_step_verdict r fs (fs ++ [(n, t)])
    (List.forall_mem_append.mpr ⟨hdf, List.forall_mem_singleton.mpr htd⟩)
  rw [hv, recordChange_of_missing _ (.inr ⟨(n, t), by simp, hnone⟩), if_neg nofun,
    recordSev_of_kept _ fs _ hd (List.forall_mem_append.mpr ⟨fun e he => Or.inl he, List.forall_mem_singleton.mpr (Or.inr hnone)⟩)
      (fun e _ he => cmp_self_field hw (Nat.le_succ_of_le hK) e he),
    missing_of_extended fs n t hd hfresh,
    none_missing (namesDistinct_append_fresh fs (n, t) hd hfresh) (fun e he => List.mem_append_left _ he)]
  cases isNullable t <;> rfl

theorem reordering_fields (r : Nat) (new old : List (Nat × ETy)) (hp : new.Perm old)
    (hd : namesDistinct old = true) (hw : ∀ e ∈ old, wfT e.2 = true) (hdf : ∀ e ∈ old, defFree e.2 = true) :
    stepVerdict [(r, .record r (fieldsOfList new))] (.record r (fieldsOfList new)) (.record r (fieldsOfList old)) = .ok := by
  have hdn : namesDistinct new = true := by
    rw [namesDistinct_iff] at hd ⊢
    exact (hp.pairwise_iff Ne.symm).mpr hd
  obtain ⟨K, -, hK, hv⟩ := record_step_verdict r new old hdf
  rw [hv, recordSev_of_kept _ new old hdn (fun e he => Or.inl (hp.mem_iff.mpr he))
      (fun e he _ => cmp_self_field hw (Nat.le_succ_of_le hK) e he),
    none_missing hd (fun e he => hp.mem_iff.mp he), none_missing hdn (fun e he => hp.mem_iff.mpr he)]
  exact ite_self _

/-- a step can be empty when it is a stream, an optional, a nullable union, a vector or a map -/
theorem inserting_a_step (env : Env) (pre suf : List EStep) (s : EStep) (hw : wfSteps (pre ++ suf) = true)
    (hfresh : ∀ x ∈ pre ++ suf, x.name ≠ s.name) :
    protoVerdict env (pre ++ s :: suf) (pre ++ suf) = if canBeEmpty s then .ok else .err := by
  obtain ⟨hd, hw⟩ := (wfSteps_iff _).mp hw
  have hrem := nothing_removed (old := pre ++ suf) (stepNamesDistinct_insert_fresh pre suf s hd hfresh)
    (fun o ho => by simp only [List.mem_append, List.mem_cons] at ho ⊢; exact ho.imp_right Or.inr)
  -- no old step is gone (`hrem`); the loop passes the unchanged `pre` (`h1`); the new step is not found among the old
  -- ones, so `canBeEmpty` decides and the expected index stays `pre.length`; from there the unchanged `suf` is passed
  -- whatever has been accumulated (`h2`)
  have h1 := protoLoop_mid env (pre ++ suf) hd hw (s :: suf) .ok pre [] suf (by simp)
  have h2 := fun acc => protoLoop_mid env (pre ++ suf) hd hw [] acc suf pre [] (by simp)
  simp only [List.length_nil, Nat.zero_add, List.append_nil, protoLoop] at h1 h2
  simp only [protoVerdict, hrem, Bool.false_eq_true, if_false, h1, findStep_none_of_fresh (pre ++ suf) s.name hfresh,
    Sev.max_ok_left, h2]

theorem appending_a_step (env : Env) (old : List EStep) (s : EStep) (hw : wfSteps old = true)
    (hfresh : ∀ x ∈ old, x.name ≠ s.name) :
    protoVerdict env (old ++ [s]) old = if canBeEmpty s then .ok else .err := by
  simpa using inserting_a_step env old [] s (by simpa using hw) (by simpa using hfresh)

theorem moving_a_step_is_rejected (env : Env) (pre tail rest : List EStep) (s o : EStep) (i : Nat)
    (hw : wfSteps (pre ++ tail) = true) (hfound : findStep (pre ++ tail) s.name = some (i, o)) (hmoved : i ≠ pre.length) :
    protoVerdict env (pre ++ s :: rest) (pre ++ tail) = .err := by
  obtain ⟨hd, hw⟩ := (wfSteps_iff _).mp hw
  have h1 := fun acc => protoLoop_mid env (pre ++ tail) hd hw (s :: rest) acc pre [] tail (by simp)
  have hne : (i != pre.length) = true := by simp [hmoved]
  simp only [List.length_nil, Nat.zero_add] at h1
  simp only [protoVerdict, h1, protoLoop, hfound, hne, if_true, Sev.max_err_right, Sev.max_err_left, protoLoop_err]

theorem changing_an_enum_definition (newFlags oldFlags : Bool) (newBase oldBase : Prim) (newSyms oldSyms : List (Nat × Int)) :
    (newFlags ≠ oldFlags → enumSev newFlags newBase newSyms oldFlags oldBase oldSyms = .err) ∧
    (newBase ≠ oldBase → enumSev newFlags newBase newSyms oldFlags oldBase oldSyms = .err) ∧
    (∀ e ∈ oldSyms, lookupSym newSyms e.1 = none → enumSev newFlags newBase newSyms oldFlags oldBase oldSyms = .err) ∧
    (∀ e ∈ oldSyms, ∀ v, lookupSym newSyms e.1 = some v → v ≠ e.2 → enumSev newFlags newBase newSyms oldFlags oldBase oldSyms = .err) := by
  have hb : enumBreaks newBase newSyms oldBase oldSyms = true →
      enumSev newFlags newBase newSyms oldFlags oldBase oldSyms = .err := fun h => by simp [enumSev, h]
  exact ⟨fun h => by simp [enumSev, h], fun h => hb ((enumBreaks_iff ..).mpr (.inl h)),
    fun e he hl => hb ((enumBreaks_iff ..).mpr (.inr ⟨e, he, by simp [hl]⟩)),
    fun e he v hl hne => hb ((enumBreaks_iff ..).mpr (.inr ⟨e, he, by simp [hl, hne]⟩))⟩

theorem adding_enum_symbols_is_silent (fl : Bool) (base : Prim) (newSyms oldSyms : List (Nat × Int))
    (hkept : ∀ e ∈ oldSyms, lookupSym newSyms e.1 = some e.2) : enumSev fl base newSyms fl base oldSyms = .ok := by
  simp [enumSev, enumBreaks_of_kept base hkept]

theorem scalar_to_vector_or_array (fuel : Nat) (t : ETy) (hs : plainScalar t = true) (l : Option Nat) (k : ArrKind) :
    cmp (fuel + 1) (.vector t l) t = .error ∧ cmp (fuel + 1) t (.vector t l) = .error ∧
    cmp (fuel + 1) (.array t k) t = .error ∧ cmp (fuel + 1) t (.array t k) = .error := by
  cases t <;> first | exact ⟨rfl, rfl, rfl, rfl⟩ | simp [plainScalar, isDim, isScalarGen] at hs

theorem changing_type_arguments (fuel : Nat) (n : Nat) :
    (∀ (as as' b b' : EFields), as.toList.length ≠ as'.toList.length → cmp (fuel + 1) (.inst n as b) (.inst n as' b') = .error) ∧
    (∀ (a a' : ETy) (b b' : EFields), (cmp fuel a a').matches = false →
      cmp (fuel + 1) (.inst n (.cons 0 a .nil) b) (.inst n (.cons 0 a' .nil) b') = .error) :=
  ⟨fun as as' b b' h => by simp [cmp_inst, argsChange_length (cmp fuel) as.toList as'.toList h],
   fun a a' b b' h => by simp [cmp_inst, EFields.toList, argsChange, h]⟩

theorem optional_and_union (fuel : Nat) (t : ETy) (rest : List (Option ETy)) (hw : wfT t = true) (h : depth t ≤ fuel)
    (hmem : some t ∈ rest) :
    cmp (fuel + 1) (.optional t) (.union (casesOfList (none :: rest))) = .warn ∧
    cmp (fuel + 1) (.union (casesOfList (none :: rest))) (.optional t) = .warn := by
  have hself := cmp_self fuel t hw h
  have h1 := anyCase_of_mem (fun c => cmp fuel t c) rest t hmem (by simp [hself, Cls.matches])
  have h2 := anyCase_of_mem (fun c => cmp fuel c t) rest t hmem (by simp [hself, Cls.matches])
  constructor <;> simp [cmp_optional_union, cmp_union_optional, h1, h2]

/-- reordering the cases of a union emits no message: `NoCross` says that cases at different positions do not match
    one another (the validator rejects unions with duplicate case types) -/
theorem reordering_union_cases (fuel : Nat) (news olds : List (Option ETy)) (hp : news.Perm olds) (hne : olds ≠ [])
    (hnd : olds.Nodup) (hnc : NoCross (cmp fuel) olds) (hw : ∀ t, some t ∈ olds → wfT t = true ∧ depth t ≤ fuel) :
    (cmp (fuel + 1) (.union (casesOfList news)) (.union (casesOfList olds))).sev = .ok := by
  have hself := cmpCase_self_of_wf fuel olds hw
  simpa [cmp_union] using union_cases_reordered (cmp fuel) news olds hp hne hnd hnc hself

/-- the hypothesis is met by a union of an integer, a string and a vector -/
example : NoCross (cmp 3) [some (.prim .int32), some (.prim .string), some (.vector (.prim .float32) none)] := by
  intro i j a b hi hj hij
  match i, j with
  | 0, 0 | 1, 1 | 2, 2 => exact absurd rfl hij
  | 0, 1 | 0, 2 | 1, 0 | 1, 2 | 2, 0 | 2, 1 => simp at hi hj; subst hi; subst hj; decide
  | i + 3, _ => simp at hi
  | 0, j + 3 | 1, j + 3 | 2, j + 3 => simp at hj

/-- the hypotheses of the classes are met: two fields have distinct names, a record is a plain scalar, a vector is
    dimensioned, a map from strings to optional numbers mentions no definition -/
example : namesDistinct [(10, ETy.prim .int32), (11, .vector (.prim .string) none)] = true ∧
    plainScalar (.record 1 (.cons 10 (.prim .int32) .nil)) = true ∧ isDim (.vector (.prim .int8) none) = true ∧
    defFree (.map (.prim .string) (.optional (.prim .float64))) = true := by decide

/-- non-vacuity / classes on concrete shapes: a record with an added optional field is a silent
    definition change; an added required field warns; a removed step is an error; an appended vector step (it can be
    empty) is silent -/
example :
    let old := ETy.record 1 (.cons 10 (.prim .int32) .nil)
    let new1 := ETy.record 1 (.cons 10 (.prim .int32) (.cons 11 (.optional (.prim .string)) .nil))
    let new2 := ETy.record 1 (.cons 10 (.prim .int32) (.cons 11 (.prim .string) .nil))
    stepVerdict [(1, new1)] new1 old = .ok ∧ stepVerdict [(1, new2)] new2 old = .warn ∧
    protoVerdict [] [⟨1, .prim .int32, false⟩] [⟨1, .prim .int32, false⟩, ⟨2, .prim .int32, false⟩] = .err ∧
    protoVerdict [] [⟨1, .prim .int32, false⟩, ⟨2, .vector (.prim .int8) none, false⟩] [⟨1, .prim .int32, false⟩] = .ok := by
  decide

end Yardl.C06
