import YardlModel.Rules

/-! `Sub` ⊆ `subterms`: the traversal reaches every nested node. -/

namespace Yardl.Rules
open Yardl.Syntax

theorem memL_subterms {a : Sur} {args : SurL} (h : MemL a args) : ∀ x ∈ subterms a, x ∈ subtermsL args := by
  induction h with
  | head r => intro x hx; simp [subtermsL, hx]
  | tail u r _ ih => intro x hx; simp [subtermsL, ih x hx]

theorem memC_subterms {c : Sur} {cs : SurC} (h : MemC c cs) : ∀ x ∈ subterms c, x ∈ subtermsC cs := by
  induction h with
  | head tag r => intro x hx; simp [subtermsC, hx]
  | tail _ _ _ _ _ ih | skip _ _ _ _ ih => intro x hx; simp [subtermsC, ih x hx]

theorem sub_mem_subterms {s t : Sur} (h : Sub s t) : s ∈ subterms t := by
  induction h with
  | refl => cases s <;> simp [subterms]
  | arg a n args hm _ ih => simp [subterms, memL_subterms hm _ ih]
  | case c cs hm _ ih => simp [subterms, memC_subterms hm _ ih]
  | opt _ _ ih | vec _ _ _ ih | arr _ _ _ ih | key _ _ _ ih | val _ _ _ ih => simp [subterms, ih]

end Yardl.Rules
