import YardlProofs.StreamsR

/-!
  A generated C++ reader is a sequence of primitive reads of `CodedInputStream` (`ReadByte`, `ReadVarInt32` / `64`,
  `ReadBytes`). `StreamsR` proves each primitive; here they are chained: a reader that issues the reads matching what a
  writer wrote gets exactly the written items, in order, for every capacity, every split of the data between the buffer
  window and the underlying stream, and every sequence — and what follows the sequence is left unread, so that
  `VerifyFinished` (`StreamsR`) then succeeds exactly when nothing follows.
-/

namespace Yardl

/-- one written item, as the C++ reader will ask for it; there is no fixed-width item because `CIS.readFixed` is not treated -/
inductive CItem
  | byte (b : UInt8)
  | var32 (n : Nat)
  | var64 (n : Nat)
  | bytes (bs : Bytes)
  deriving Repr

/-- what a reader gets back -/
inductive CVal
  | byte (b : UInt8)
  | num (n : Nat)
  | bytes (bs : Bytes)
  deriving Repr, DecidableEq

namespace CItem

def enc : CItem → Bytes
  | .byte b => [b]
  | .var32 n => encVar n
  | .var64 n => encVar n
  | .bytes bs => bs

def val : CItem → CVal
  | .byte b => .byte b
  | .var32 n => .num n
  | .var64 n => .num n
  | .bytes bs => .bytes bs

/-- what a writer can have written: the number fits the width the reader asks for -/
def ok : CItem → Prop
  | .var32 n => n < 2 ^ 32
  | .var64 n => n < 2 ^ 64
  | _ => True

end CItem

def encCItems : List CItem → Bytes
  | [] => []
  | i :: r => i.enc ++ encCItems r

namespace CIS

/-- the read a reader issues for an item (it knows kind and size from the schema, not the content) -/
def readItem (s : CIS) : CItem → ROut CVal
  | .byte _ => lift CVal.byte s.readByte
  | .var32 _ => lift CVal.num s.readVar32
  | .var64 _ => lift CVal.num s.readVar64
  | .bytes bs => lift CVal.bytes (s.readBytes bs.length)

def readItems (s : CIS) : List CItem → ROut (List CVal)
  | [] => .ok [] s
  | i :: r => (match s.readItem i with
      | .ok v s' => lift (v :: ·) (readItems s' r)
      | .eos => .eos | .bad => .bad | .notFinished => .notFinished)

theorem readItem_ok (s : CIS) (hc : 0 < s.cap) (hinv : s.Inv) (i : CItem) (hi : i.ok) (rest : Bytes)
    (hp : s.pending = i.enc ++ rest) : Refines s.cap (s.readItem i) (some (i.val, rest)) := by
  cases i with
  | byte b => exact (readByte_ok s hc hinv b rest hp).lift _
  | var32 n => exact (readVar_ok s 5 (by omega) hc hinv n rest (encVar_length_le5 n hi) hp).lift _
  | var64 n => exact (readVar_ok s 10 (by omega) hc hinv n rest (encVar_length_le10 n hi) hp).lift _
  | bytes bs => exact (readBytes_ok s hc hinv bs rest hp).lift _

/-- an item cut strictly inside its encoding: `EndOfStreamException`. (`PIS.readItem_cut` takes `pending.length < enc.length`
    and a separate reason for varints instead, the shape of `C01.py_reader_sequence_cut`.) -/
theorem readItem_cut (s : CIS) (hc : 0 < s.cap) (hinv : s.Inv) (i : CItem) (hi : i.ok) (more : Bytes)
    (hp : s.pending ++ more = i.enc) (hm : more ≠ []) : s.readItem i = .eos := by
  have hlen := length_lt_of_append_ne_nil hp hm
  cases i with
  | byte b => rw [readItem, readByte_cut s (List.eq_nil_of_length_eq_zero (Nat.lt_one_iff.mp hlen))]; rfl
  | var32 n => rw [readItem, readVar32, readVar_cut s 5 (by omega) hc hinv n more (encVar_length_le5 n hi) hp hm]; rfl
  | var64 n => rw [readItem, readVar64, readVar_cut s 10 (by omega) hc hinv n more (encVar_length_le10 n hi) hp hm]; rfl
  | bytes bs => rw [readItem, readBytes_cut s hc hinv bs.length hlen]; rfl

theorem readItems_ok (items : List CItem) (s : CIS) (hc : 0 < s.cap) (hinv : s.Inv)
    (hi : ∀ i ∈ items, i.ok) (rest : Bytes) (hp : s.pending = encCItems items ++ rest) :
    Refines s.cap (s.readItems items) (some (items.map CItem.val, rest)) := by
  induction items generalizing s with
  | nil => exact ⟨s, rfl, hp, hinv, rfl⟩
  | cons i r ih =>
    obtain ⟨s1, h1, hp1, hinv1, hc1⟩ := readItem_ok s hc hinv i (hi i (by simp)) (encCItems r ++ rest)
      (by rw [hp, encCItems, List.append_assoc])
    have := (ih s1 (by omega) hinv1 (fun j hj => hi j (by simp [hj])) hp1).lift (i.val :: ·)
    rw [hc1] at this
    simpa [readItems, h1] using this

/-- cut between items or inside one -/
theorem readItems_cut (items : List CItem) (s : CIS) (hc : 0 < s.cap) (hinv : s.Inv)
    (hi : ∀ i ∈ items, i.ok) (more : Bytes) (hm : more ≠ [])
    (hp : s.pending ++ more = encCItems items) : s.readItems items = .eos := by
  induction items generalizing s with
  | nil => exact absurd (List.append_eq_nil_iff.mp hp).2 hm
  | cons i r ih =>
    rcases prefix_append_cases hp with ⟨a, ha, h⟩ | ⟨c, h1, h2⟩
    · simp only [readItems, readItem_cut s hc hinv i (hi i (by simp)) a h ha]
    · obtain ⟨s1, e1, hp1, hinv1, hc1⟩ := readItem_ok s hc hinv i (hi i (by simp)) c h1
      have := ih s1 (by omega) hinv1 (fun j hj => hi j (by simp [hj])) (by rw [hp1]; exact h2)
      simp only [readItems, e1, this, lift]

end CIS

end Yardl
