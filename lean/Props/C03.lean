import YardlProofs.StreamCompose

/-!
# C03 — Streams are portable across target languages and formats (binary part)

Both writers refine the same byte-level specification, so for the same sequence of primitive
writes they emit the same bytes whatever their (different) flush strategies
(`cpp_and_python_writers_agree`), and what either writes decodes under the shared format
(`Props/C01.lean`). The Python writer never indexes its staging buffer out of range
(`python_offset_stays_in_buffer`) — *provided no unchecked byte write is issued*; before
00e76b6 `UnionSerializer.write`/`StreamSerializer.write` issued one (`unchecked_byte_can_overflow`
keeps the witness). Python writes a union index as one byte, C++ as a varint: they coincide exactly
below 128 cases (`union_index_encodings_agree_iff`).
The NDJSON half and the generated code are covered by the correspondence run of `checks/c03.py`.
-/

namespace Yardl.C03

theorem cpp_and_python_writers_agree (cap₁ cap₂ : Nat) (ops : List WOp) (h₁ : 10 ≤ cap₁) (h₂ : 10 ≤ cap₂)
    (hok₁ : ∀ op ∈ ops, op.ok cap₁) (hok₂ : ∀ op ∈ ops, op.ok cap₂) :
    (Cpp.run ⟨cap₁, [], [], false⟩ ops).abs = (Py.run ⟨cap₂, [], [], false⟩ ops).abs := by
  rw [(Cpp.run_spec ops ⟨cap₁, [], [], false⟩ h₁ ⟨Nat.zero_le _, rfl⟩ hok₁).1,
    (Py.run_spec ops ⟨cap₂, [], [], false⟩ h₂ ⟨Nat.zero_le _, rfl⟩ hok₂).1]
  rfl

theorem python_offset_stays_in_buffer (s : COS) (ops : List WOp) (hc : 10 ≤ s.cap) (hinv : s.Inv)
    (hok : ∀ op ∈ ops, op.ok s.cap) :
    (Py.run s ops).buf.length ≤ (Py.run s ops).cap ∧ (Py.run s ops).oob = false :=
  (Py.run_spec ops s hc hinv hok).2

/-- The pre-fix behaviour: an unchecked byte write with a full buffer leaves the buffer
    (Python: `IndexError: bytearray index out of range`). -/
theorem unchecked_byte_can_overflow :
    (Py.run ⟨10, [], [], false⟩ [.bytes [1, 2, 3, 4, 5, 6, 7, 8, 9, 10], .byteNoCheck 0]).oob = true := by
  decide

theorem union_index_encodings_agree_iff (i : Nat) (hi : i < 256) :
    encVar i = [UInt8.ofNat i] ↔ i < 128 :=
  encVar_eq_singleton_iff i

/-- **Across languages at the stream level**: what the Python output stream model emits for any item sequence the C++
    input stream model reads back as exactly those items, and what the C++ output stream emits the Python input stream
    reads back — all four buffer capacities independent, refill boundaries anywhere, anything may follow. -/
theorem streams_cross_languages (items : List CItem) (hi : ∀ i ∈ items, i.ok)
    (w : COS) (hw : 10 ≤ w.cap) (hwinv : w.Inv) (hwe : w.abs = []) (rest : Bytes) :
    (∀ r : CIS, 10 ≤ r.cap → r.Inv → r.pending = (Py.run w (items.map CItem.toW)).abs ++ rest →
      ∃ r', r.readItems items = .ok (items.map CItem.val) r' ∧ r'.pending = rest) ∧
    (∀ r : PIS, 0 < r.cap → r.Inv → r.pending = (Cpp.run w (items.map CItem.toW)).abs ++ rest →
      ∃ r', r.readItems (items.map CItem.toR) = .ok ((items.map CItem.val).map CItem.rval) r' ∧ r'.pending = rest) :=
  ⟨fun r hr => (Yardl.written_by_either_read_by_either items hi w hw hwinv hwe _ (Or.inr rfl) rest).1 r (by omega),
   (Yardl.written_by_either_read_by_either items hi w hw hwinv hwe _ (Or.inl rfl) rest).2⟩

example : (⟨10, [], [], false⟩ : COS).Inv ∧ (⟨10, [], [], false⟩ : COS).abs = [] := by simp [COS.Inv, COS.abs]

end Yardl.C03
