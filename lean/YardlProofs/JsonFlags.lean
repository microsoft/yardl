import YardlModel.Json
import YardlProofs.ListLemmas

/-!
  Enum and flags values round trip through NDJSON: a symbol is found again by its name (the names
  are distinct); a flags value is the array of the names found by the greedy bit-clearing decomposition both back
  ends use, or the integer itself when the value is not a combination of declared flags.
-/

namespace Yardl.Json
open Yardl

/-- clearing the bits of `v` in `r` (`r &= ~v`) splits `r` into the cleared rest and the part shared with `v` -/
theorem clear_or (r v : Nat) : (r ^^^ (r &&& v)) ||| (r &&& v) = r := by
  apply Nat.eq_of_testBit_eq
  intro i
  simp only [Nat.testBit_or, Nat.testBit_xor, Nat.testBit_and]
  cases r.testBit i <;> cases v.testBit i <;> rfl

theorem distinct_cons (x : List UInt8) (r : List (List UInt8)) : distinct (x :: r) = true ↔ x ∉ r ∧ distinct r = true := by
  simp [distinct]

theorem distinct_iff : ∀ l : List (List UInt8), distinct l = true ↔ l.Pairwise (· ≠ ·)
  | [] => by simp [distinct]
  | x :: r => by
    rw [distinct_cons, distinct_iff r, List.pairwise_cons]
    exact and_congr_left fun _ => ⟨fun h a ha e => h (e ▸ ha), fun h hx => h x hx rfl⟩

theorem find_by_name (syms : List (String × Int)) (p : String × Int)
    (hd : distinct (syms.map fun q => strBytes q.1) = true) (h : p ∈ syms) :
    syms.find? (fun q => strBytes q.1 = strBytes p.1) = some p := by
  simpa only [Bool.beq_eq_decide_eq] using List.find?_key_of_mem (fun q : String × Int => strBytes q.1) (List.pairwise_map.mp ((distinct_iff _).mp hd)) h

theorem symOfValue_mem : ∀ (syms : List (String × Int)) (x : Int) (s : String), symOfValue syms x = some s → (s, x) ∈ syms
  | [], _, _, h => by simp [symOfValue] at h
  | (s0, v0) :: r, x, s, h => by
    simp only [symOfValue] at h
    split at h
    · simp_all
    · exact List.mem_cons_of_mem _ (symOfValue_mem r x s h)

/-- the names the greedy decomposition selects are read back by `orFlags` as the value decomposed; `all` is the whole
    declaration, in which `orFlags` looks the names up, while the decomposition has come to its tail `syms`
    (by induction along `flagNames`: stop at 0, skip a non-positive or not contained value, else select and clear) -/
theorem orFlags_flagNames (all : List (String × Int)) (hd : distinct (all.map fun q => strBytes q.1) = true)
    (syms : List (String × Int)) (rem : Nat) (acc names : List String) :
    (∀ p ∈ syms, p ∈ all) → flagNames syms rem acc = some names →
    ∃ sel, names = acc.reverse ++ sel ∧ orFlags all (sel.map fun n => .str (strBytes n)) = some (Int.ofNat rem) := by
  fun_induction flagNames syms rem acc with
  | case1 | case3 => intro _ h; exact ⟨[], by simpa using h.symm, rfl⟩
  | case2 rem acc h0 => intro _ h; cases h
  | case4 _ _ _ _ _ _ _ ih | case6 _ _ _ _ _ _ _ _ ih => intro hs h; exact ih (fun p hp => hs p (List.mem_cons_of_mem _ hp)) h
  | case5 s v r rem acc h0 hv hsub ih =>
    intro hs h
    obtain ⟨sel, h1, h2⟩ := ih (fun p hp => hs p (List.mem_cons_of_mem _ hp)) h
    refine ⟨s :: sel, by simp [h1], ?_⟩
    simp only [List.map_cons, orFlags, find_by_name all (s, v) hd (hs _ (List.mem_cons_self ..)), h2]
    -- the selected flag's bits and the bits left after clearing them make up `rem` again
    rw [Nat.or_comm]
    exact congrArg (fun k => some (Int.ofNat k))
      ((congrArg (_ ||| ·) ((Nat.and_comm _ _).trans hsub)).symm.trans (clear_or rem v.toNat))

theorem enum_round_trip (F : Fmt) (b : Prim) (fl : Bool) (syms : List (String × Int))
    (hd : distinct (syms.map fun q => strBytes q.1) = true) (x : Int) :
    fromJ F (.enum b fl syms) (toJ F (.enum b fl syms) (.int x)) = some (.int x) := by
  have sym : ∀ s, symOfValue syms x = some s → syms.find? (fun q => strBytes q.1 = strBytes s) = some (s, x) :=
    fun s hs => find_by_name syms (s, x) hd (symOfValue_mem syms x s hs)
  cases fl with
  | false =>
    simp only [toJ, Bool.false_eq_true, if_false]
    cases hs : symOfValue syms x with
    | none => simp [fromJ]
    | some s => simp [fromJ, sym s hs]
  | true =>
    simp only [toJ, if_true]
    by_cases h0 : x = 0
    · subst h0
      simp only [if_true]
      cases hs : symOfValue syms 0 with
      | none => simp [fromJ, orFlags]
      | some z => simp [fromJ, orFlags, sym z hs]
    · simp only [h0, if_false]
      by_cases hneg : x < 0
      · simp [hneg, fromJ]
      · simp only [hneg, if_false]
        cases hf : flagNames syms x.toNat [] with
        | none => simp [fromJ]
        | some names =>
          obtain ⟨sel, rfl, h⟩ := orFlags_flagNames syms hd syms x.toNat [] names (fun _ hp => hp) hf
          simp only [fromJ, if_true, h, Option.map_some, Option.some.injEq, Val.int.injEq]
          exact Int.toNat_of_nonneg (by omega)

end Yardl.Json
