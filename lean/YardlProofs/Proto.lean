import YardlModel.Proto

/-! The numeric state encodings of the generated readers/writers simulate the descriptive specification machines step by
    step (`*_step`, `*_inv`); `run_sim` lifts a one-step simulation to every operation sequence. -/

namespace Yardl.Proto

/-- `r` runs `f` over a list of operations and stops at the first refusal: what `runW`, `runWS`, `runR`, … are, each at its own types -/
structure IsRun {σ α : Type} (f : σ → α → Option σ) (r : σ → List α → Option σ) : Prop where
  nil : ∀ s, r s [] = some s
  cons : ∀ s a as, r s (a :: as) = (f s a).bind (r · as)

theorem runW_isRun (f) : IsRun f (runW f) := ⟨fun _ => rfl, fun s a as => by rw [runW]; cases f s a <;> rfl⟩
theorem runWS_isRun (f) : IsRun f (runWS f) := ⟨fun _ => rfl, fun s a as => by rw [runWS]; cases f s a <;> rfl⟩
theorem runR_isRun (f) : IsRun f (runR f) := ⟨fun _ => rfl, fun s a as => by rw [runR]; cases f s a <;> rfl⟩
theorem runRS_isRun (f) : IsRun f (runRS f) := ⟨fun _ => rfl, fun s a as => by rw [runRS]; cases f s a <;> rfl⟩
theorem runPR_isRun (f) : IsRun f (runPR f) := ⟨fun _ => rfl, fun s a as => by rw [runPR]; cases f s a <;> rfl⟩
theorem runPRS_isRun (f) : IsRun f (runPRS f) := ⟨fun _ => rfl, fun s a as => by rw [runPRS]; cases f s a <;> rfl⟩

/-- An implementation whose step is the image under `enc` of the specification's step, on the positions satisfying an
    invariant that the specification keeps, accepts the same operation sequences and ends in the corresponding state. -/
theorem run_sim {σ τ α : Type} {spec : σ → α → Option σ} {impl : τ → α → Option τ} {rs ri} (hs : IsRun spec rs) (hi : IsRun impl ri)
    {enc : σ → τ} {Inv : σ → Prop}
    (hstep : ∀ s a, Inv s → (spec s a).map enc = impl (enc s) a)
    (hinv : ∀ s a, Inv s → ∀ s', spec s a = some s' → Inv s') :
    ∀ (ops : List α) (s : σ), Inv s → (rs s ops).map enc = ri (enc s) ops
  | [], s, _ => by rw [hs.nil, hi.nil]; rfl
  | a :: ops, s, h => by
    rw [hs.cons, hi.cons, ← hstep s a h]
    cases hsa : spec s a with
    | none => rfl
    | some s' => exact run_sim hs hi hstep hinv ops s' (hinv s a h s' hsa)

/-! ### the numeric guards, read back as positions

  Python writer and both readers keep `2k + b`: `2k` ready for step `k`, `2k + 1` inside / after stream `k`. -/

theorem enc_eq_even (k i : Nat) (b : Bool) : 2 * k + (if b then 1 else 0) = 2 * i ↔ k = i ∧ b = false := by
  cases b <;> simp <;> omega

theorem enc_eq_odd (k i : Nat) (b : Bool) : 2 * k + (if b then 1 else 0) = 2 * i + 1 ↔ k = i ∧ b = true := by
  cases b <;> simp <;> omega

theorem enc_eq_pred (k i : Nat) (b : Bool) : (i > 0 ∧ 2 * k + (if b then 1 else 0) = 2 * i - 1) ↔ i = k + 1 ∧ b = true := by
  cases b <;> simp <;> omega

/-- the same with a conjunct in between: the C++ reader's guard is `i > 0 ∧ isStream p (i - 1) ∧ st = 2 * i - 1` -/
theorem enc_eq_pred' (k i : Nat) (b : Bool) (q : Prop) :
    (i > 0 ∧ q ∧ 2 * k + (if b then 1 else 0) = 2 * i - 1) ↔ i = k + 1 ∧ q ∧ b = true := by
  rw [and_left_comm, enc_eq_pred, and_left_comm]

/-- Reachable positions of the Python writer: `openS` only on a stream step (what the model's `RInv` says of the C++ reader).
    The model's `pyWInv` says it of implementation states; the proofs work on positions and do not use it. -/
def WInv (p : Shape) (s : WPos) : Prop := s.openS = true → isStream p s.k = true ∧ s.k < p.length

/-- Reachable positions of the Python reader: an iterable is outstanding only on a stream step, and only an outstanding one can be dead. -/
def PRInv (p : Shape) (s : PRPos) : Prop := (s.inS = true → isStream p s.k = true ∧ s.k < p.length) ∧ (s.inS = false → s.dead = false)

/-! ### one step

  After unfolding, and reading the guards back with `enc_eq_*`, both sides are `if`-chains over the same atoms: `i = k`,
  `i = k + 1`, the flag, `isStream p i`, `i < p.length`. `grind` is left to match the branches one by one (the invariant rules
  out the positions no implementation state encodes); in the `*_inv` lemmas, to check the flag of each resulting position. -/

/-- the C++ writer's state is the step ordinal itself: no invariant is needed -/
theorem cppW_step (p : Shape) (s : WPos) (op : WOp) : (specWcpp p s op).map (·.k) = cppW p s.k op := by
  obtain ⟨k, o⟩ := s
  cases op <;> simp only [specWcpp, cppW, apply_ite (Option.map (fun (x : WPos) => x.k)), apply_ite (fun (x : WPos) => x.k), Option.map_some, Option.map_none] <;> grind

theorem pyW_step (p : Shape) (s : WPos) (op : WOp) (h : WInv p s) :
    (specWpy p s op).map encW = pyW p (encW s) op := by
  obtain ⟨k, o⟩ := s
  unfold WInv at h
  cases op <;> simp only [specWpy, pyW, encW, enc_eq_even, enc_eq_odd, enc_eq_pred, apply_ite (Option.map encW), Option.map_some, Option.map_none] at * <;> grind

theorem pyW_inv (p : Shape) (s : WPos) (op : WOp) (h : WInv p s) : ∀ s', specWpy p s op = some s' → WInv p s' := by
  obtain ⟨k, o⟩ := s
  unfold WInv at *
  intro s'
  cases op <;> simp only [specWpy] at * <;> grind

theorem cppR_step (p : Shape) (s : RPos) (op : ROp) (h : RInv p s) :
    (specRcpp p s op).map encR = cppR p (encR s) op := by
  obtain ⟨k, o⟩ := s
  unfold RInv at h
  cases op <;> simp only [specRcpp, cppR, encR, enc_eq_even, enc_eq_odd, enc_eq_pred', apply_ite (Option.map encR), Option.map_some, Option.map_none] at * <;> grind

theorem cppR_inv (p : Shape) (s : RPos) (op : ROp) (h : RInv p s) : ∀ s', specRcpp p s op = some s' → RInv p s' := by
  obtain ⟨k, o⟩ := s
  unfold RInv at *
  intro s'
  cases op <;> simp only [specRcpp] at * <;> grind

theorem pyR_step (p : Shape) (s : PRPos) (op : PROp) (h : PRInv p s) :
    (specRpy p s op).map encPR = pyR p (encPR s) op := by
  obtain ⟨k, o, d⟩ := s
  unfold PRInv at h
  cases op <;> simp only [specRpy, pyR, encPR, enc_eq_even, enc_eq_odd, apply_ite (Option.map encPR), Option.map_some, Option.map_none] at * <;> grind

theorem pyR_inv (p : Shape) (s : PRPos) (op : PROp) (h : PRInv p s) : ∀ s', specRpy p s op = some s' → PRInv p s' := by
  obtain ⟨k, o, d⟩ := s
  unfold PRInv at *
  intro s'
  cases op <;> simp only [specRpy] at * <;> grind

end Yardl.Proto
