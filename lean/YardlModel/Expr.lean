import YardlModel.Wire

/-!
  YardlModel.Expr — computed-field expressions: static typing of arithmetic
  (validation_computed_fields.go, `*BinaryExpression` case) and the parenthesisation decision
  of the three emitters (cpp/types, python/types, matlab/types `writeComputedFieldExpression`).
  The primitive tables are parameters; `YardlGenerated.Tables` instantiates them with what the
  current source computes.
-/

namespace Yardl

inductive BinOp | add | sub | mul | div | pow
  deriving DecidableEq, Repr

def BinOp.prec : BinOp → Nat
  | .add | .sub => 0
  | .mul | .div => 1
  | .pow => 2

def BinOp.all : List BinOp := [.add, .sub, .mul, .div, .pow]

def Prim.all : List Prim := [.bool, .int8, .int16, .int32, .int64, .uint8, .uint16, .uint32, .uint64, .size,
  .float32, .float64, .complexfloat32, .complexfloat64, .string, .date, .time, .datetime]

theorem Prim.mem_all (p : Prim) : p ∈ Prim.all := by cases p <;> decide
theorem BinOp.mem_all (o : BinOp) : o ∈ BinOp.all := by cases o <;> decide

def lookup2 (tab : List (Prim × Prim × Option Prim)) (a b : Prim) : Option Prim :=
  match tab.find? (fun r => r.1 == a && r.2.1 == b) with
  | some r => r.2.2
  | none => none

/-- kind: 0 integer, 1 floating point, 2 complex, 3 other (Go's iota order). -/
def lookupKind (tab : List (Prim × Nat × Nat × Bool × Bool × Nat)) (a : Prim) : Nat :=
  match tab.find? (fun r => r.1 == a) with
  | some r => r.2.1
  | none => 3

structure Tables where
  common : List (Prim × Prim × Option Prim)
  info : List (Prim × Nat × Nat × Bool × Bool × Nat)

/-- Static type of `l op r` for primitive operand types `a`, `b` (none = "operator not defined"). -/
def binopType (T : Tables) (op : BinOp) (a b : Prim) : Option Prim :=
  if lookupKind T.info a ≤ 2 && lookupKind T.info b ≤ 2 then
    match lookup2 T.common a b with
    | none => none
    | some c =>
      if op = .pow then (if lookupKind T.info c = 0 then some .float64 else some c)
      else if c = .int8 ∨ c = .uint8 ∨ c = .int16 ∨ c = .uint16 then some .int32 else some c
  else none

/-! ### Parenthesisation -/

inductive Target | cpp | python | matlab
  deriving DecidableEq, Repr

def Target.all : List Target := [.cpp, .python, .matlab]
theorem Target.mem_all (t : Target) : t ∈ Target.all := by cases t <;> decide

/-- The emitters' decision for the *left* operand `child` of `op` (after fix a15986d). -/
def emitParenLeft (tgt : Target) (op child : BinOp) : Bool :=
  match tgt with
  | .python => child.prec < op.prec || (child.prec == op.prec && op == .pow)
  | .cpp | .matlab => child.prec < op.prec

/-- The emitters' decision for the *right* operand. -/
def emitParenRight (tgt : Target) (op child : BinOp) : Bool :=
  match tgt with
  | .python => child.prec < op.prec || (child.prec == op.prec && op != .pow)
  | .cpp | .matlab => child.prec ≤ op.prec

/-- Target grammar: is `op` right-associative in the target's infix syntax? (Python `**`; MATLAB `^`
    and every other operator are left-associative.) C++ emits `std::pow(l, r)`: no infix operator. -/
def rightAssoc (tgt : Target) (op : BinOp) : Bool := tgt == .python && op == .pow

/-- Textbook criterion: an operand must be parenthesised iff the target parser would otherwise
    attach it differently. -/
def mustParenLeft (tgt : Target) (op child : BinOp) : Bool :=
  child.prec < op.prec || (child.prec == op.prec && rightAssoc tgt op)

def mustParenRight (tgt : Target) (op child : BinOp) : Bool :=
  child.prec < op.prec || (child.prec == op.prec && !rightAssoc tgt op)

/-! ### Integer evaluation (reference semantics used by the correspondence run) -/

inductive Expr
  | lit (n : Int)
  | var (i : Nat)
  | neg (e : Expr)
  | bin (op : BinOp) (l r : Expr)

/-- C++ semantics of integer `/`: truncation toward zero. -/
def tdiv (a b : Int) : Int := Int.tdiv a b

def Expr.eval (ρ : Nat → Int) : Expr → Option Int
  | .lit n => some n
  | .var i => some (ρ i)
  | .neg e => (e.eval ρ).map (fun x => -x)
  | .bin op l r =>
    match l.eval ρ, r.eval ρ with
    | some x, some y =>
      match op with
      | .add => some (x + y)
      | .sub => some (x - y)
      | .mul => some (x * y)
      | .div => if y = 0 then none else some (tdiv x y)
      | .pow => none      -- typed float64: outside the integer fragment
    | _, _ => none

end Yardl

/-! ### Evaluation in a fixed-width integer type (C++ `int64_t` / `uint64_t` …, NumPy scalars) -/

namespace Yardl

/-- the value range of a fixed-width integer type -/
structure Rng where
  lo : Int
  hi : Int
  deriving Repr

/-- modular wrap into the range (two's complement for the signed types, mod 2ⁿ for the unsigned ones) -/
def Rng.wrap (r : Rng) (v : Int) : Int := r.lo + (v - r.lo) % (r.hi - r.lo + 1)

def Rng.contains (r : Rng) (v : Int) : Bool := r.lo ≤ v && v ≤ r.hi

/-- evaluation with every operand and every operation's result wrapped into the type's range -/
def Expr.evalW (r : Rng) (ρ : Nat → Int) : Expr → Option Int
  | .lit n => some (r.wrap n)
  | .var i => some (r.wrap (ρ i))
  | .neg e => (e.evalW r ρ).map (fun x => r.wrap (-x))
  | .bin op l r' =>
    match l.evalW r ρ, r'.evalW r ρ with
    | some x, some y =>
      match op with
      | .add => some (r.wrap (x + y))
      | .sub => some (r.wrap (x - y))
      | .mul => some (r.wrap (x * y))
      | .div => if y = 0 then none else some (r.wrap (tdiv x y))
      | .pow => none
    | _, _ => none

/-- every operand, every intermediate result and the result lie in the range of the type -/
def Expr.inRange (r : Rng) (ρ : Nat → Int) : Expr → Bool
  | .lit n => r.contains n
  | .var i => r.contains (ρ i)
  | .neg e => e.inRange r ρ && (match (Expr.neg e).eval ρ with | some v => r.contains v | none => false)
  | .bin op l r' => l.inRange r ρ && r'.inRange r ρ && (match (Expr.bin op l r').eval ρ with | some v => r.contains v | none => false)

end Yardl

/-! ### The type of an integer literal (validation_computed_fields.go, `case *IntegerLiteralExpression`) -/

namespace Yardl

/-- the integer types a literal can get: (signed, bits) -/
structure IntTy where
  signed : Bool
  bits : Nat
  deriving DecidableEq, Repr

def IntTy.rng (t : IntTy) : Rng :=
  if t.signed then ⟨-(2 ^ (t.bits - 1) : Int), 2 ^ (t.bits - 1) - 1⟩ else ⟨0, 2 ^ t.bits - 1⟩

/-- the cascade of comparisons: a non-negative literal gets the narrowest unsigned type that holds it, a negative one the
    narrowest signed type; `none`: "integer literal is too large" -/
def litType (n : Int) : Option IntTy :=
  if 0 ≤ n then
    if n ≤ 255 then some ⟨false, 8⟩
    else if n ≤ 65535 then some ⟨false, 16⟩
    else if n ≤ 4294967295 then some ⟨false, 32⟩
    else if n ≤ 18446744073709551615 then some ⟨false, 64⟩
    else none
  else
    if -128 ≤ n then some ⟨true, 8⟩
    else if -32768 ≤ n then some ⟨true, 16⟩
    else if -2147483648 ≤ n then some ⟨true, 32⟩
    else if -9223372036854775808 ≤ n then some ⟨true, 64⟩
    else none

/-- the widths yardl has -/
def IntTy.valid (t : IntTy) : Bool := t.bits == 8 || t.bits == 16 || t.bits == 32 || t.bits == 64

end Yardl
