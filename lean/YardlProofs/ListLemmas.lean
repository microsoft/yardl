namespace List

theorem find?_key_middle {α κ : Type} [BEq κ] [LawfulBEq κ] (key : α → κ) {pre post : List α} {e : α}
    (hd : (pre ++ e :: post).Pairwise (fun a b => key a ≠ key b)) :
    (pre ++ e :: post).find? (fun x => key x == key e) = some e ∧
    (pre ++ e :: post).findIdx? (fun x => key x == key e) = some pre.length := by
  have hpre : ∀ x ∈ pre, (key x == key e) = false := fun x hx =>
    beq_eq_false_iff_ne.mpr ((pairwise_append.mp hd).2.2 x hx e (mem_cons_self ..))
  constructor
  · rw [find?_append, find?_eq_none.mpr (by simpa using hpre)]
    simp
  · rw [findIdx?_append, findIdx?_eq_none_iff.mpr hpre]
    simp [findIdx?_cons]

theorem find?_key_of_mem {α κ : Type} [BEq κ] [LawfulBEq κ] (key : α → κ) {l : List α} {e : α}
    (hd : l.Pairwise (fun a b => key a ≠ key b)) (he : e ∈ l) : l.find? (fun x => key x == key e) = some e := by
  obtain ⟨pre, post, rfl⟩ := append_of_mem he
  exact (find?_key_middle key hd).1

/-- core's `find?_cons` with `if` for `match`: the form `simp` can set against an if-cascade -/
theorem find?_cons_ite {α : Type} (p : α → Bool) (a : α) (l : List α) :
    (a :: l).find? p = if p a then some a else l.find? p := by
  cases h : p a <;> simp [h]

theorem find?_least {α : Type} {p : α → Bool} {key : α → Nat} : ∀ {l : List α}, l.Pairwise (fun x y => key x < key y) →
    ∀ {a b : α}, l.find? p = some b → a ∈ l → key a < key b → p a = false
  | [], _, _, _, _, ha, _ => nomatch ha
  | x :: l, hs, a, b, hf, ha, hk => by
    rw [pairwise_cons] at hs
    rcases find?_cons_eq_some.1 hf with ⟨_, rfl⟩ | ⟨hx, hf'⟩
    · rcases mem_cons.1 ha with rfl | ha
      · omega
      · have := hs.1 a ha; omega
    · rcases mem_cons.1 ha with rfl | ha
      · simpa using hx
      · exact find?_least hs.2 hf' ha hk

/-- a loop invariant of a left fold that may speak of the items processed so far -/
theorem foldl_prefix {α β : Type} {motive : List α → β → Prop} {op : β → α → β} {l : List α} {b : β} (h0 : motive [] b)
    (hs : ∀ pre i post b, l = pre ++ i :: post → motive pre b → motive (pre ++ [i]) (op b i)) : motive l (l.foldl op b) := by
  suffices ∀ (post pre : List α) (b : β), l = pre ++ post → motive pre b → motive l (post.foldl op b) from this l [] b rfl h0
  intro post
  induction post with
  | nil => intro pre b e h; rw [e, append_nil]; exact h
  | cons i post ih =>
    intro pre b e h
    exact ih (pre ++ [i]) (op b i) (by rw [e, append_assoc]; rfl) (hs pre i post b e h)

/-- a Boolean "the keys are distinct" check written by recursion (`d`) says that the keys are pairwise different -/
theorem distinctBy_iff {α : Type} (key : α → Nat) (d : List α → Bool) (h0 : d [] = true)
    (hc : ∀ a r, d (a :: r) = (!(r.any fun x => key x == key a) && d r)) :
    ∀ l, d l = true ↔ l.Pairwise (fun a b => key a ≠ key b)
  | [] => by simp [h0]
  | a :: r => by
    simp only [hc, Bool.and_eq_true, Bool.not_eq_true', List.any_eq_false, beq_iff_eq, List.pairwise_cons,
      distinctBy_iff key d h0 hc r]
    exact and_congr_left fun _ => forall₂_congr fun _ _ => ⟨Ne.symm, Ne.symm⟩

/-- the counterpart of `find?_key_middle` for a key that does not occur -/
theorem find?_key_fresh {α : Type} (key : α → Nat) {l : List α} {n : Nat} (h : ∀ x ∈ l, key x ≠ n) :
    l.find? (fun x => key x == n) = none ∧ l.findIdx? (fun x => key x == n) = none :=
  ⟨find?_eq_none.mpr fun x hx => by simpa using h x hx, findIdx?_eq_none_iff.mpr fun x hx => by simpa using h x hx⟩

end List

namespace Yardl

theorem prefix_append_cases {α : Type} {q more e t : List α} (h : q ++ more = e ++ t) :
    (∃ a, a ≠ [] ∧ q ++ a = e) ∨ (∃ c, q = e ++ c ∧ c ++ more = t) := by
  rcases List.append_eq_append_iff.mp h with ⟨a, h1, h2⟩ | ⟨c, h1, h2⟩
  · by_cases ha : a = []
    · subst ha
      exact .inr ⟨[], by simpa using h1.symm, by simpa using h2⟩
    · exact .inl ⟨a, ha, h1.symm⟩
  · exact .inr ⟨c, h1, h2.symm⟩

theorem length_lt_of_append_ne_nil {α : Type} {q more e : List α} (h : q ++ more = e) (hm : more ≠ []) :
    q.length < e.length := by
  have := List.length_pos_iff.mpr hm
  rw [← h, List.length_append]; omega

theorem take_drop_of_append {α : Type} {w src bs rest : List α} (hp : w ++ src = bs ++ rest) (hk : bs.length ≤ w.length) :
    w.take bs.length = bs ∧ w.drop bs.length ++ src = rest := by
  have h1 := List.take_append_of_le_length (l₂ := src) hk
  have h2 := List.drop_append_of_le_length (l₂ := src) hk
  rw [hp, List.take_left] at h1
  rw [hp, List.drop_left] at h2
  exact ⟨h1.symm, h2.symm⟩

end Yardl
