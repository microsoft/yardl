import YardlProofs.Proto
import YardlProofs.ProtoFail
import YardlProofs.ProtoMatlab

/-!
# C07 — Protocol step order is enforced by generated readers and writers

Implementation machines (numeric `state_`/`_state`, transliterated from the generators) against specification
machines with descriptive positions. For **every** protocol shape and **every** finite sequence of API calls — with
the data-dependent outcomes of reads (`got`, `more`) as adversarial parameters — an implementation run is accepted
iff the specification run is, and they end in corresponding positions. Eight comparisons:

* the four base classes: `cpp_writer_iff`, `py_writer_iff`, `cpp_reader_iff`, `py_reader_iff`;
* the two writers with calls whose implementation raises: `cpp_writer_with_failing_writes_iff`,
  `py_writer_with_failing_writes_iff`, with `failed_write_keeps_the_implicit_end`;
* MATLAB: `matlab_writer_iff`, `matlab_reader_iff` (the machines denoted by the method tables `harness/py/matlabproto.py`
  reads out of the generated `.m` files, compared with `matWriterRows` / `matReaderRows`).

The specification machines are the readable statement of "steps in declaration order, non-stream
steps once, stream steps any number of times then ended/exhausted, close only at the end":
`close` is accepted exactly at position `p.length` (`spec_close_cpp_writer`, `spec_close_py_reader`, `spec_matlab_reader`;
the C++ reader also after a drained trailing stream whose end it has not reported yet: `spec_close_cpp_reader`; the Python
writer also from inside a trailing stream, which it ends: that is in `specWpy`, no theorem states it separately); a step out
of order is refused: `spec_out_of_order_write_cpp`, `spec_matlab_reader`; an abandoned Python stream is not finished:
`abandoned_stream_blocks_the_reader`.

The C++ state counters were `uint8_t` before 2a31fce and wrapped at 128 (reader) / 256 (writer)
steps; the models use unbounded naturals, matching `size_t` for every protocol that fits in memory.
`checks/c07.py` drives the generated C++ and Python base classes with scripted stubs (exhaustive short
call sequences for all small shapes, random long ones, a 130-step protocol) and compares the index of
the first rejected call with these machines.
-/

namespace Yardl.C07
open Yardl.Proto

theorem cpp_writer_iff (p : Shape) (ops : List WOp) :
    (runWS (specWcpp p) ⟨0, false⟩ ops).map (·.k) = runW (cppW p) 0 ops :=
  run_sim (Inv := fun _ => True) (runWS_isRun _) (runW_isRun _) (fun s a _ => cppW_step p s a) (fun _ _ _ _ _ => trivial) ops ⟨0, false⟩ trivial

theorem py_writer_iff (p : Shape) (ops : List WOp) :
    (runWS (specWpy p) ⟨0, false⟩ ops).map encW = runW (pyW p) 0 ops :=
  run_sim (runWS_isRun _) (runW_isRun _) (pyW_step p) (pyW_inv p) ops ⟨0, false⟩ nofun

theorem cpp_reader_iff (p : Shape) (ops : List ROp) :
    (runRS (specRcpp p) ⟨0, false⟩ ops).map encR = runR (cppR p) 0 ops :=
  run_sim (runRS_isRun _) (runR_isRun _) (cppR_step p) (cppR_inv p) ops ⟨0, false⟩ nofun

theorem py_reader_iff (p : Shape) (ops : List PROp) :
    (runPRS (specRpy p) ⟨0, false, false⟩ ops).map encPR = runPR (pyR p) (0, false) ops :=
  run_sim (runPRS_isRun _) (runPR_isRun _) (pyR_step p) (pyR_inv p) ops ⟨0, false, false⟩ ⟨nofun, fun _ => rfl⟩

/-- a stream whose iterable was dropped before its end is not finished: the reader stays at that step, so reading the next
    step (or the same one again) and closing are all rejected -/
theorem abandoned_stream_blocks_the_reader (p : Shape) (s : PRPos) (i : Nat) (s' : PRPos) (h : specRpy p s (.abandon i) = some s') :
    (∀ j, specRpy p s' (.read j) = none) ∧ (∀ j, specRpy p s' (.exhaust j) = none) ∧ specRpy p s' .close = none := by
  simp only [specRpy] at h
  split at h
  · cases h
    refine ⟨fun j => ?_, fun j => ?_, ?_⟩ <;> simp [specRpy]
  · cases h

/-- Closing a C++ writer succeeds only when every step has been completed. -/
theorem spec_close_cpp_writer (p : Shape) (s : WPos) : (specWcpp p s .close).isSome ↔ s.k = p.length := by
  simp only [specWcpp]; split <;> simp_all

/-- An out-of-order write raises: only the current step is writable (C++). -/
theorem spec_out_of_order_write_cpp (p : Shape) (s : WPos) (i : Nat) (h : i ≠ s.k) : specWcpp p s (.write i) = none := by
  simp [specWcpp, h]

/-- Closing a C++ reader succeeds only at the end (possibly observing a drained trailing stream). -/
theorem spec_close_cpp_reader (p : Shape) (s : RPos) :
    (specRcpp p s .close).isSome ↔ (s.k = p.length ∧ s.drained = false) ∨ (s.k + 1 = p.length ∧ s.drained = true) := by
  simp only [specRcpp]; split <;> (try split) <;> simp_all

theorem spec_close_py_reader (p : Shape) (s : PRPos) : (specRpy p s .close).isSome ↔ (s.k = p.length ∧ s.inS = false) := by
  simp only [specRpy]; split <;> simp_all

/-! Non-vacuity: int, stream, stream, int — an accepted run and a rejected one, in all four machines. -/
def ex : Shape := [false, true, true, false]
example : runW (cppW ex) 0 [.write 0, .write 1, .write 1, .endS 1, .endS 2, .write 3, .close] = some 4 := by decide
example : runW (cppW ex) 0 [.write 0, .write 2] = none := by decide
example : runW (pyW ex) 0 [.write 0, .write 1, .write 2, .write 3, .close] = some 8 := by decide
example : runW (pyW ex) 0 [.write 0, .write 2] = none := by decide          -- stream b never written
example : runR (cppR ex) 0 [.read 0 true, .batch 1 false, .read 2 true, .read 2 false, .read 3 true, .close] = some 8 := by decide
example : runR (cppR ex) 0 [.read 0 true, .read 1 true, .read 2 true] = none := by decide   -- end of b not observed
example : runPR (pyR ex) (0, false) [.read 0, .read 1, .exhaust 1, .read 2, .exhaust 2, .read 3, .close] = some (8, false) := by decide
example : runPR (pyR ex) (0, false) [.read 0, .read 1, .read 2] = none := by decide
example : runPR (pyR ex) (0, false) [.read 0, .read 1, .abandon 1, .read 2] = none := by decide
example : runPR (pyR ex) (0, false) [.read 0, .read 1, .abandon 1] = some (3, true) := by decide

/-! ### writers whose implementation of a step raises and that are used further (`YardlModel/ProtoFail.lean`)

  For every shape and every sequence of calls, failing ones anywhere. -/

/-- after a failed call the C++ writer is where it was -/
theorem cpp_writer_with_failing_writes_iff (p : Shape) (ops : List WOpF) :
    (runWSF (specWcppF p) ⟨0, false⟩ ops).map (·.k) = runWF (cppWF p) 0 ops :=
  run_sim (Inv := fun _ => True) (runWSF_isRun _) (runWF_isRun _) (fun s a _ => cppWF_step p s a) (fun _ _ _ _ _ => trivial) ops ⟨0, false⟩ trivial

/-- the Python writer keeps a stream ended that the failed call ended implicitly -/
theorem py_writer_with_failing_writes_iff (p : Shape) (ops : List WOpF) :
    (runWSF (specWpyF p) ⟨0, false⟩ ops).map encW = runWF (pyWF p) 0 ops :=
  run_sim (runWSF_isRun _) (runWF_isRun _) (pyWF_step p) (pyWF_inv p) ops ⟨0, false⟩ nofun

/-- … the position after such a call is "ready for step i", and that stream cannot be written to again -/
theorem failed_write_keeps_the_implicit_end (p : Shape) (s s' : WPos) (i : Nat) (hi : i = s.k + 1) (ho : s.openS = true)
    (h : specWpyF p s (.fail i) = some s') : s' = ⟨i, false⟩ ∧ specWpyF p s' (.op (.write s.k)) = none :=
  Yardl.Proto.failed_write_keeps_the_implicit_end p s s' i hi ho h

/-- the hypothesis is met: inside stream 0 of the shape [stream, value], the failing write of step 1 is accepted by the state check -/
example : specWpyF [true, false] ⟨0, true⟩ (.fail 1) = some ⟨1, false⟩ := by decide

/-! ### MATLAB (never executed here: tied by reading the method tables out of the generated `.m` files) -/

/-- the writer the table of a generated `<P>WriterBase.m` denotes accepts exactly the call sequences of the step-order specification (the C++
    discipline: explicit `end_<step>`), ending in the corresponding position — for every protocol shape and every call sequence -/
theorem matlab_writer_iff (p : Shape) (ops : List WOp) :
    (runWS (specWcpp p) ⟨0, false⟩ ops).map (·.k) = runW (matW (matWriterRows p)) 0 ops := by
  rw [matW_eq_cppW]
  exact cpp_writer_iff p ops

/-- … and the reader table of `<P>ReaderBase.m` (`read_<step>`, `has_<step>` ending a stream when it answers false, `close`) is its specification -/
theorem matlab_reader_iff (p : Shape) (ops : List MROp) :
    runMR (matR (matReaderRows p)) 0 ops = runMR (specRmat p) 0 ops := by
  rw [matR_eq_spec]

/-- the reader specification says what the property says: close only after the last step; a step out of order is refused -/
theorem spec_matlab_reader (p : Shape) (k i : Nat) (more : Bool) :
    ((specRmat p k .close).isSome ↔ k = p.length) ∧ (i ≠ k → specRmat p k (.read i) = none ∧ specRmat p k (.has i more) = none) := by
  refine ⟨by simp [specRmat], fun h => ⟨by simp [specRmat, h], by simp [specRmat, h]⟩⟩

example : runMR (matR (matReaderRows [false, true, false])) 0 [.read 0, .has 1 true, .read 1, .has 1 false, .read 2, .close] = some 3 := by decide
example : runMR (matR (matReaderRows [false, true, false])) 0 [.read 0, .read 2] = none := by decide


end Yardl.C07
