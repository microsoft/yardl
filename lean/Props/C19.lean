import YardlProofs.Expr
import YardlGenerated.Tables

/-!
# C19 — Computed fields mean the same thing in every target language

Typing: theorems over the tables that `harness/py/gen_tables.py` regenerates on every run by
*executing* `dsl.GetCommonType` / `GetPrimitiveKind` on all 324 ordered pairs of primitives — so a
change to `commonTypeMap` that breaks one of them breaks the build of this file, and
`findAsym` computes the failing pair for the replay.

Emission: the parenthesisation decision of the three emitters (model `emitParen*`, tied to the code
by parsing the emitted Python with CPython's own parser and by evaluating generated C++/Python)
coincides with the textbook criterion for the target grammars, for every target, operator and
operand operator.

Evaluation: arithmetic in a fixed-width type (C++ integer types, NumPy scalars) yields the mathematical value
whenever operands, intermediates and result are in range (`fixed_width_evaluation_is_exact`); an integer
literal gets the narrowest type of its signedness that holds it (`literal_*`, model `litType` of
validation_computed_fields.go).

Known limits (see known_findings.json): integer `/` is emitted as `//` in Python (floor) but `/`
in C++ (truncation) — they differ when exactly one operand is negative and the division is inexact.
-/

namespace Yardl.C19
open Yardl Yardl.Generated

def T : Tables := ⟨commonTypeTab, primInfoTab⟩

def commonType (a b : Prim) : Option Prim := lookup2 commonTypeTab a b

/-- Counterexample finder used by the check when `common_symm` no longer holds. -/
def findAsym : Option (Prim × Prim) :=
  (Prim.all.flatMap fun a => Prim.all.map fun b => (a, b)).find? fun (a, b) => commonType a b != commonType b a

theorem common_symm (a b : Prim) : commonType a b = commonType b a := by
  have h : ∀ a ∈ Prim.all, (commonTypeTab.filter (·.1 == a)).map (fun r => (r.2.1, r.2.2)) =
      (commonTypeTab.filter (·.2.1 == a)).map (fun r => (r.1, r.2.2)) := by decide +kernel
  exact lookup2_symm (fun a => h a (Prim.mem_all a)) a b

theorem common_idem (a : Prim) : commonType a a = some a := by
  have h : ∀ a ∈ Prim.all, commonType a a = some a := by decide +kernel
  exact h a (Prim.mem_all a)

/-- The static type of a binary expression does not depend on operand order. -/
theorem binop_type_symm (op : BinOp) (a b : Prim) : binopType T op a b = binopType T op b a :=
  binopType_comm (T := T) common_symm op a b

/-- Documented promotion: arithmetic on 8/16-bit integers is typed `int32`, never narrower. -/
theorem small_ints_promote (op : BinOp) (a b c : Prim) (h : binopType T op a b = some c) :
    c ≠ .int8 ∧ c ≠ .uint8 ∧ c ≠ .int16 ∧ c ≠ .uint16 := by
  obtain ⟨-, -, c', -, rfl⟩ := binopType_eq_some h
  -- `**` keeps a common type only when it is no integer type, and the table says the four small types are
  have hk : lookupKind T.info .int8 = 0 ∧ lookupKind T.info .uint8 = 0 ∧ lookupKind T.info .int16 = 0 ∧
      lookupKind T.info .uint16 = 0 := by decide
  split <;> split
  · decide
  · next hc => exact ⟨fun e => hc (e ▸ hk.1), fun e => hc (e ▸ hk.2.1), fun e => hc (e ▸ hk.2.2.1), fun e => hc (e ▸ hk.2.2.2)⟩
  · decide
  · next hc => simpa only [not_or] using hc

/-- Documented: `**` yields `float64` (never an integer type). -/
theorem pow_never_integer (a b c : Prim) (h : binopType T .pow a b = some c) : lookupKind primInfoTab c ≠ 0 := by
  obtain ⟨-, -, c', -, rfl⟩ := binopType_eq_some h
  have hf : lookupKind primInfoTab .float64 ≠ 0 := by decide
  rw [if_pos rfl]
  split <;> assumption

/-- Arithmetic is only defined between numeric operands and its type is numeric. -/
theorem binop_numeric (op : BinOp) (a b c : Prim) (h : binopType T op a b = some c) :
    lookupKind primInfoTab a ≤ 2 ∧ lookupKind primInfoTab b ≤ 2 ∧ lookupKind primInfoTab c ≤ 2 := by
  obtain ⟨ha, hb, c', hc', rfl⟩ := binopType_eq_some h
  -- one pass over the table: a common type of numeric operands is numeric
  have htab : ∀ r ∈ commonTypeTab, lookupKind primInfoTab r.1 ≤ 2 → ∀ c ∈ r.2.2, lookupKind primInfoTab c ≤ 2 := by
    decide +kernel
  have hc : lookupKind primInfoTab c' ≤ 2 := htab _ (lookup2_mem hc') ha c' rfl
  have hf : lookupKind primInfoTab .float64 ≤ 2 ∧ lookupKind primInfoTab .int32 ≤ 2 := by decide
  refine ⟨ha, hb, ?_⟩
  split <;> split
  · exact hf.1
  · exact hc
  · exact hf.2
  · exact hc

/-- For every target, operator and operand operator the emitters' decision is the grammar's requirement (the model's `mustParen*`
    answer `false` for the operands of C++ `pow`, a function call, and so do the emitters). -/
theorem emitted_parentheses_are_the_required_ones (tgt : Target) (op child : BinOp) :
    emitParenLeft tgt op child = mustParenLeft tgt op child ∧ emitParenRight tgt op child = mustParenRight tgt op child := by
  have hh : ∀ tgt ∈ Target.all, ∀ op ∈ BinOp.all, ∀ child ∈ BinOp.all,
      emitParenLeft tgt op child = mustParenLeft tgt op child ∧
      emitParenRight tgt op child = mustParenRight tgt op child := by decide
  exact hh tgt (Target.mem_all tgt) op (BinOp.mem_all op) child (BinOp.mem_all child)

/-- The emitters parenthesise exactly the operands the target grammar requires (C++ `pow` is a
    function call and needs none). -/
theorem parentheses_correct (tgt : Target) (op child : BinOp) (h : ¬ (tgt = .cpp ∧ op = .pow)) :
    emitParenLeft tgt op child = mustParenLeft tgt op child ∧
    (emitParenRight tgt op child = mustParenRight tgt op child) :=
  emitted_parentheses_are_the_required_ones tgt op child

example : binopType T .add .uint8 .int8 = some .int32 := by decide
example : binopType T .pow .int32 .int32 = some .float64 := by decide
example : binopType T .mul .float32 .int16 = some .float32 := by decide

/-! ### one meaning in every target: arithmetic in a fixed-width type -/

/-- C++ (`int64_t`, `uint64_t`, …) and NumPy scalars compute in a fixed-width type: every operand and every operation's
    result is wrapped into the type's range. Whenever the operands, the intermediate results and the result of a computed
    field lie in the range of the type, that computation yields the mathematical value of the expression (`Expr.eval`,
    exact integers, division truncating) — for every expression, every range and every record -/
theorem fixed_width_evaluation_is_exact (r : Rng) (ρ : Nat → Int) (e : Expr) (h : e.inRange r ρ = true) :
    e.evalW r ρ = e.eval ρ :=
  Expr.evalW_exact r ρ e h

/-- the hypothesis is met by `(x + y - z) / y` on `uint64` at the top of the range, and is needed: out of range, the
    fixed-width value differs from the mathematical one -/
example :
    let r : Rng := ⟨0, 18446744073709551615⟩
    let e : Expr := .bin .div (.bin .sub (.bin .add (.var 0) (.var 1)) (.var 2)) (.var 1)
    e.inRange r (fun i => [18446744073709551557, 7, 3].getD i 0) = true ∧
    (Expr.bin .add (.var 0) (.var 0)).evalW r (fun _ => 18446744073709551615) ≠ (Expr.bin .add (.var 0) (.var 0)).eval (fun _ => 18446744073709551615) := by
  decide


/-! ### integer literals -/

/-- an integer literal gets a type that holds it -/
theorem literal_fits_its_type (n : Int) (t : IntTy) (h : litType n = some t) : t.rng.contains n = true := by
  rw [litType_eq_find] at h
  exact List.find?_some (p := fun t : IntTy => t.rng.contains n) h

/-- … the narrowest one of its signedness: no narrower type of yardl holds it -/
theorem literal_type_is_the_narrowest (n : Int) (t t' : IntTy) (h : litType n = some t) (hv : t'.valid = true)
    (hs : t'.signed = t.signed) (hn : t'.bits < t.bits) : t'.rng.contains n = false := by
  rw [litType_eq_find] at h
  -- `t` comes from the list, so it has the literal's signedness; `t'` is in the list too, and before `t`
  obtain ⟨b, _, rfl⟩ := List.mem_map.1 (List.mem_of_find?_eq_some h)
  obtain ⟨s', b'⟩ := t'
  simp only [IntTy.valid, Bool.or_eq_true, beq_iff_eq] at hv
  simp only at hs
  subst hs
  exact List.find?_least (key := IntTy.bits) (by simp) h (List.mem_map.2 ⟨b', by simpa [or_assoc] using hv, rfl⟩) hn

/-- … and a literal is refused exactly when no 64-bit type holds it -/
theorem literal_refused_iff_out_of_64_bits (n : Int) :
    litType n = none ↔ (n < -9223372036854775808 ∨ 18446744073709551615 < n) := by
  rw [litType_eq_find, List.find?_eq_none]
  by_cases h : 0 ≤ n
  · have hs : decide (n < 0) = false := by simpa using h
    simp only [hs, List.map, List.mem_cons, List.not_mem_nil, or_false, forall_eq_or_imp, forall_eq, IntTy.contains_unsigned h,
      decide_eq_true_eq, Int.reducePow, Int.reduceSub]
    omega
  · have hn : n < 0 := by omega
    simp only [hn, decide_true, List.map, List.mem_cons, List.not_mem_nil, or_false, forall_eq_or_imp, forall_eq, IntTy.contains_signed hn,
      decide_eq_true_eq, Nat.reduceSub, Int.reducePow, Int.reduceNeg]
    omega

/-- at the edges: -128 is an int8, -129 an int16 (its magnitude has 8 bits: the sign needs one more), 255 a uint8, 256 a uint16 -/
example : litType (-128) = some ⟨true, 8⟩ ∧ litType (-129) = some ⟨true, 16⟩ ∧ litType (-200) = some ⟨true, 16⟩ ∧ litType 255 = some ⟨false, 8⟩ ∧
    litType 256 = some ⟨false, 16⟩ ∧ litType (-2147483649) = some ⟨true, 64⟩ ∧ litType 18446744073709551616 = none := by decide

end Yardl.C19
