import YardlModel.PyStream
import YardlProofs.StreamsR

/-!
  The Python `CodedInputStream` refines the byte-level decoders: for every buffer size, every way the
  bytes are split between buffer and underlying stream, each read returns exactly the next bytes of the
  stream (decoded), and a read that needs more bytes than the stream holds raises (`EOFError`, or the
  `BufferError` of the resize quirk) — it never returns a value.
  Treated: `readByte`, `readFixed`, `readVar`, `readBytes`, all the reads of the model.
-/

namespace Yardl
namespace PIS

/-- `short` stands for `last_read_count < len(buffer)`: the last `readinto` did not fill the buffer, so the underlying stream
    is dry, for as long as bytes of that read are left in the window. The guard `win ≠ []` is there because a fresh stream
    (`init`) has `short = true` with all of `src` still to come. -/
def Inv (s : PIS) : Prop := s.win.length ≤ s.cap ∧ (s.win ≠ [] → s.short = true → s.src = [])

-- `POut.isError` stands here, not in the model file, because only the theorems speak of it
def _root_.Yardl.POut.isError {α : Type} : POut α → Bool
  | .ok _ _ => false
  | _ => true

theorem _root_.Yardl.POut.isError_iff {α : Type} {r : POut α} : r.isError = true ↔ r = .eof ∨ r = .bufferError := by
  cases r <;> simp [POut.isError]

/-- As `CIS.Refines`, for the Python stream: where there is nothing to decode the read raises (`EOFError`, or the
    `BufferError` of `_fill_buffer`). -/
def Refines {α : Type} (cap : Nat) (r : POut α) : Option (α × Bytes) → Prop
  | some (v, rest) => ∃ s', r = .ok v s' ∧ s'.pending = rest ∧ s'.Inv ∧ s'.cap = cap
  | none => r.isError = true

theorem init_inv (cap : Nat) (src : Bytes) : (init cap src).Inv := by
  simp [init, Inv]

theorem refill_len (s : PIS) : s.refill.win.length = s.win.length + min (s.cap - s.win.length) s.src.length := by
  simp [refill, List.length_take]

theorem refill_pending (s : PIS) : s.refill.pending = s.pending := by
  simp [refill, pending, List.append_assoc]

theorem refill_inv (s : PIS) (hinv : s.Inv) : s.refill.Inv := by
  constructor
  · show _ ≤ s.cap
    rw [refill_len]; have := hinv.1; omega
  · intro _ hsh
    simp only [refill, decide_eq_true_eq] at hsh
    simp only [refill, List.drop_eq_nil_iff]
    omega

theorem ensure_ok (s : PIS) (n : Nat) (hc : n ≤ s.cap) (hinv : s.Inv) (hn : n ≤ s.pending.length) :
    ∃ s1, s.ensure n = .ok () s1 ∧ s1.pending = s.pending ∧ n ≤ s1.win.length ∧ s1.Inv ∧ s1.cap = s.cap := by
  have hpl : s.pending.length = s.win.length + s.src.length := by simp [pending]
  unfold ensure
  by_cases hlt : s.win.length < n
  · simp only [hlt, if_true]
    unfold fill
    -- the `BufferError` of `_fill_buffer` cannot fire: a short last read means the stream is dry, yet `n` bytes are pending
    have hnb : ¬ (0 < s.win.length ∧ s.short = true) := by
      intro ⟨h1, h2⟩
      have hw : s.win ≠ [] := by intro h; simp [h] at h1
      have := hinv.2 hw h2
      simp only [this, List.length_nil, Nat.add_zero] at hpl
      omega
    have hge : ¬ (0 < n ∧ s.refill.win.length < n) := by
      intro ⟨_, h2⟩
      rw [refill_len] at h2
      have := hinv.1
      omega
    simp only [hnb, hge, if_false]
    refine ⟨_, rfl, refill_pending s, ?_, refill_inv s hinv, rfl⟩
    rw [refill_len]; have := hinv.1; omega
  · simp only [hlt, if_false]
    exact ⟨s, rfl, rfl, by omega, hinv, rfl⟩

theorem ensure_cut (s : PIS) (n : Nat) (hn : s.pending.length < n) : s.ensure n = .eof ∨ s.ensure n = .bufferError := by
  have hpl : s.pending.length = s.win.length + s.src.length := by simp [pending]
  unfold ensure
  rw [if_pos (by omega)]
  unfold fill
  by_cases hb : 0 < s.win.length ∧ s.short = true
  · simp [hb]
  · have hcond : 0 < n ∧ s.refill.win.length < n := by
      rw [refill_len]; constructor <;> omega
    simp [hb, hcond]

/-- Consuming the first `k` bytes of the window, which are the first `k` pending bytes. -/
theorem take_win (s : PIS) (hinv : s.Inv) (k : Nat) (bs rest : Bytes) (hp : s.pending = bs ++ rest) (hl : bs.length = k)
    (hk : k ≤ s.win.length) :
    s.win.take k = bs ∧ ({ s with win := s.win.drop k } : PIS).pending = rest ∧
      ({ s with win := s.win.drop k } : PIS).Inv := by
  subst hl
  obtain ⟨h1, h2⟩ := take_drop_of_append hp hk
  exact ⟨h1, h2, by have := hinv.1; simp only [List.length_drop]; omega,
    fun hne => hinv.2 (fun h => hne (by simp [h]))⟩

/-- `ensure 1` and the head of the window: the next pending byte, and the state once it is consumed. -/
theorem next_byte (s : PIS) (hc : 0 < s.cap) (hinv : s.Inv) (b : UInt8) (rest : Bytes) (hp : s.pending = b :: rest) :
    ∃ s1 w, s.ensure 1 = .ok () s1 ∧ s1.win = b :: w ∧ ({ s1 with win := w } : PIS).pending = rest ∧
      ({ s1 with win := w } : PIS).Inv ∧ s1.cap = s.cap := by
  obtain ⟨s1, he, hp1, hw1, hinv1, hc1⟩ := ensure_ok s 1 hc hinv (by simp [hp])
  cases hw : s1.win with
  | nil => simp [hw] at hw1
  | cons b' w =>
    have h : b' :: (w ++ s1.src) = b :: rest := by simpa [pending, hw] using hp1.trans hp
    obtain ⟨rfl, h2⟩ := List.cons.inj h
    refine ⟨s1, w, he, hw, h2, ⟨?_, fun _ => hinv1.2 (by simp [hw])⟩, hc1⟩
    have := hinv1.1; rw [hw] at this; simp at this ⊢; omega

theorem readByte_ok (s : PIS) (hc : 0 < s.cap) (hinv : s.Inv) (b : UInt8) (rest : Bytes) (hp : s.pending = b :: rest) :
    Refines s.cap s.readByte (some (b, rest)) := by
  obtain ⟨s1, w, he, hw, h⟩ := next_byte s hc hinv b rest hp
  exact ⟨_, by simp only [readByte, he, hw], h⟩

theorem readByte_cut (s : PIS) (hp : s.pending = []) : s.readByte.isError = true := by
  rcases ensure_cut s 1 (by simp [hp]) with e | e <;> simp [readByte, e, POut.isError]

theorem readFixed_ok (s : PIS) (w : Nat) (hc : w ≤ s.cap) (hinv : s.Inv) (bs rest : Bytes) (hl : bs.length = w)
    (hp : s.pending = bs ++ rest) : Refines s.cap (s.readFixed w) (some (CIS.leVal bs, rest)) := by
  obtain ⟨s1, he, hp1, hw1, hinv1, hc1⟩ := ensure_ok s w hc hinv (by simp [hp]; omega)
  obtain ⟨h1, h2, h3⟩ := take_win s1 hinv1 w bs rest (hp1.trans hp) hl hw1
  exact ⟨{ s1 with win := s1.win.drop w }, by simp only [readFixed, he, h1], h2, h3, hc1⟩

theorem readFixed_cut (s : PIS) (w : Nat) (hp : s.pending.length < w) : (s.readFixed w).isError = true := by
  rcases ensure_cut s w hp with e | e <;> simp [readFixed, e, POut.isError]

/-- The loop of `read_unsigned_varint` computes `decVar` of the pending bytes, whatever they are, in accumulator form;
    bytes that are no varint run into the end of the stream. -/
theorem varLoop_decVar : ∀ (fuel : Nat) (s : PIS) (shift acc : Nat), 0 < s.cap → s.Inv → s.pending.length < fuel →
    Refines s.cap (varLoop fuel s shift acc) ((decVar s.pending).map fun p => (acc + p.1 * 2 ^ shift, p.2)) := by
  intro fuel
  induction fuel with
  | zero => intro s _ _ _ _ h; omega
  | succ fuel ih =>
    intro s shift acc hc hinv hf
    unfold varLoop
    cases hp : s.pending with
    | nil => rcases ensure_cut s 1 (by simp [hp]) with e | e <;> rw [e] <;> rfl
    | cons b rest =>
      obtain ⟨s1, w, he, hw, hp2, hinv2, hc1⟩ := next_byte s hc hinv b rest hp
      -- `← hc1`: the goal speaks of `s.cap`, the states reached have `s1.cap`; turned, the closing `rfl`s fit
      rw [← hc1, decVar_cons_acc]
      by_cases hb : b.toNat < 128
      · simp only [he, hw, hb, if_true]
        exact ⟨_, rfl, hp2, hinv2, rfl⟩
      · simp only [he, hw, hb, if_false]
        have h := ih { s1 with win := w } (shift + 7) (acc + b.toNat % 128 * 2 ^ shift) (by simpa [hc1] using hc) hinv2
          (by rw [hp2]; rw [hp] at hf; simpa using hf)
        rwa [hp2] at h

theorem varLoop_zero (s : PIS) (fuel : Nat) (hc : 0 < s.cap) (hinv : s.Inv) (hf : s.pending.length < fuel) :
    Refines s.cap (varLoop fuel s 0 0) (decVar s.pending) := by
  simpa using varLoop_decVar fuel s 0 0 hc hinv hf

theorem readVar_ok (s : PIS) (hc : 0 < s.cap) (hinv : s.Inv) (n : Nat) (rest : Bytes) (hp : s.pending = encVar n ++ rest) :
    Refines s.cap s.readVar (some (n, rest)) := by
  have := varLoop_zero s (s.pending.length + 1) hc hinv (by omega)
  rwa [show decVar s.pending = some (n, rest) by rw [hp, decVar_encVar]] at this

theorem readVar_cut (s : PIS) (hc : 0 < s.cap) (hinv : s.Inv) (n : Nat) (more : Bytes) (hp : s.pending ++ more = encVar n)
    (hm : more ≠ []) : s.readVar.isError = true := by
  have := varLoop_zero s (s.pending.length + 1) hc hinv (by omega)
  rwa [decVar_proper_prefix n _ more hp hm] at this

/-- `read_view` / `read_bytearray`: out of the buffer, after a refill, or (a run longer than the buffer) through a local buffer -/
theorem readBytes_ok (s : PIS) (hinv : s.Inv) (bs rest : Bytes) (hp : s.pending = bs ++ rest) :
    Refines s.cap (s.readBytes bs.length) (some (bs, rest)) := by
  unfold readBytes
  have hpl : s.win.length + s.src.length = bs.length + rest.length := by
    have := congrArg List.length hp; simpa [pending] using this
  by_cases h1 : bs.length ≤ s.win.length
  · obtain ⟨t1, t2, t3⟩ := take_win s hinv _ bs rest hp rfl h1
    rw [if_pos h1, t1]
    exact ⟨_, rfl, t2, t3, rfl⟩
  · rw [if_neg h1]
    by_cases h2 : s.cap < bs.length
    · -- a local buffer: `bs` is the window followed by the first bytes of the underlying stream
      rw [if_pos h2, if_neg (by omega)]
      obtain ⟨t1, t2⟩ := take_drop_of_append hp.symm (Nat.le_of_lt (Nat.lt_of_not_le h1))
      have hb : s.win ++ bs.drop s.win.length = bs := (congrArg (· ++ _) t1).symm.trans (List.take_append_drop ..)
      refine ⟨{ s with win := [], src := s.src.drop (bs.length - s.win.length) }, ?_, ?_, ⟨Nat.zero_le _, fun h => absurd rfl h⟩, rfl⟩
      · rw [← t2, List.take_left' List.length_drop, hb]
      · show [] ++ s.src.drop _ = rest
        rw [← t2, List.drop_left' List.length_drop]; rfl
    · rw [if_neg h2]
      obtain ⟨s1, he, hp1, hw1, hinv1, hc1⟩ := ensure_ok s bs.length (by omega) hinv (by simp [hp])
      rw [ensure, if_pos (by omega)] at he   -- `readBytes` calls `fill` itself
      obtain ⟨t1, t2, t3⟩ := take_win s1 hinv1 _ bs rest (hp1.trans hp) rfl hw1
      rw [he]
      simp only [t1]
      exact ⟨_, rfl, t2, t3, hc1⟩

theorem readBytes_cut (s : PIS) (n : Nat) (hp : s.pending.length < n) : (s.readBytes n).isError = true := by
  have hpl : s.pending.length = s.win.length + s.src.length := by simp [pending]
  unfold readBytes
  rw [if_neg (by omega)]
  by_cases h2 : s.cap < n
  · rw [if_pos h2, if_pos (by omega)]; rfl
  · have he := ensure_cut s n hp
    rw [ensure, if_pos (by omega)] at he   -- as above: `fill` is called directly
    rw [if_neg h2]
    rcases he with e | e <;> simp [e, POut.isError]

end PIS
end Yardl
