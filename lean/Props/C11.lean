import YardlProofs.Cli
import YardlGenerated.Pipeline

/-!
# C11 — Generation is all-or-nothing with respect to validation

`generateImpl` is modelled as its (regenerated) list of calls over an abstract file system.

* `no_write_before_validation`, `validation_error_is_returned`: facts about the *current source*
  (go/ast): nothing that may write precedes `validatePackage`, whose error is returned; every callee
  not known to be pure counts as a writer, so inserting any new call before validation breaks this.
* `invalid_package_leaves_fs_untouched`: for every file system (empty or populated), every
  behaviour of the other calls and every effect of the writers, if validation fails then the file
  system is unchanged and the command fails.
* `nested_errors_propagate`: inside `validatePackage` / `parseAndFlattenNamespaces` /
  `parsePackageNamespaces` the error of every parse, validate and evolution call — main package,
  imports (recursive call) and previous versions — is returned, never swallowed. (Before
  5cf9e7b the recursive call's error was swallowed: `("parsePackageNamespaces", "swallowed", true)`.)

`checks/c11.py` runs the real CLI on invalid packages (error in the main package, an import, a
previous version, the evolution check, the manifest) × output configurations × {empty, populated}
output directories and compares recursive content+mtime snapshots.
-/

namespace Yardl.C11
open Yardl.Cli Yardl.Generated

def pipeline : List Call := ofTable calls_generateImpl

/-- index of `validatePackage` in `generateImpl` -/
def vIdx : Nat := (pipeline.findIdx (fun c => c.name == "validatePackage"))

/-- the calls up to and including `validatePackage`, read off the regenerated list once: none may write, the error of each
    is returned -/
theorem upto_validation : vIdx < pipeline.length ∧
    ∀ j, j ≤ vIdx → ∀ cj, pipeline[j]? = some cj → cj.writes = false ∧ cj.errReturned = true := by decide

theorem validation_call_exists : ∃ c, pipeline[vIdx]? = some c ∧ c.name = "validatePackage" :=
  ⟨pipeline[vIdx]'upto_validation.1, List.getElem?_eq_getElem _, beq_iff_eq.mp (List.findIdx_getElem (w := upto_validation.1))⟩

theorem no_write_before_validation : ∀ j, j < vIdx → ∀ cj, pipeline[j]? = some cj → cj.writes = false :=
  fun j hj cj h => (upto_validation.2 j (Nat.le_of_lt hj) cj h).1

theorem validation_error_is_returned :
    ∀ c, pipeline[vIdx]? = some c → c.errReturned = true ∧ c.writes = false :=
  fun c h => (upto_validation.2 vIdx (Nat.le_refl _) c h).symm

theorem earlier_errors_are_returned : ∀ j, j < vIdx → ∀ cj, pipeline[j]? = some cj → cj.errReturned = true :=
  fun j hj cj h => (upto_validation.2 j (Nat.le_of_lt hj) cj h).2

theorem invalid_package_leaves_fs_untouched (fails : Nat → Bool) (effect : Nat → FS → FS) (fs : FS)
    (hinvalid : fails vIdx = true) : run fails effect pipeline fs = (fs, false) :=
  runFrom_stops fails effect pipeline 0 vIdx fs upto_validation.1
    (fun j hj cj h => ⟨(upto_validation.2 j hj cj h).1, fun _ => (upto_validation.2 j hj cj h).2⟩)
    (by simpa using hinvalid)

/-- Every fallible step of validation hands its error to the caller. -/
theorem nested_errors_propagate :
    (∀ r ∈ calls_validatePackage, r.2.1 = "returned") ∧
    (∀ r ∈ calls_parseAndFlattenNamespaces, r.2.1 = "returned") ∧
    (∀ r ∈ calls_parsePackageNamespaces, r.2.1 = "returned") ∧
    ("dsl.ValidateEvolution" ∈ calls_validatePackage.map (·.1)) ∧
    ("parsePackageNamespaces" ∈ calls_parsePackageNamespaces.map (·.1)) := by decide

/-- `yardl validate` reports the same validation error (exit status from the same `err`). -/
theorem validate_command_uses_validatePackage : "validatePackage" ∈ calls_validateImpl.map (·.1) := by decide

/-- the generators run after validation, one after the other, each writing its files as it goes: a generator that rejected a model for a reason of
    its own would leave the output of the generators before it modified although the command fails. Over the sites regenerated from the current
    source: no generator package constructs an error (what they return are the I/O errors of the calls they make). -/
theorem generators_only_fail_on_io : generatorErrorSites = [] := by decide

end Yardl.C11
