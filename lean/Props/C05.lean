import YardlModel.Evolution
import YardlProofs.ConvRefl
import YardlProofs.ConvClasses

/-!
# C05 — Accepted schema evolution preserves data across versions

Model: `Evo.conv reading src dst v` (`YardlModel/Evolution.lean`) — the value of type `dst` the
generated C++ of the latest version produces from a value of type `src`: `reading = true` when it
reads a listed previous version's stream, `reading = false` when it writes for `Version::<label>`.
It follows writeTypeConversion / writeCompatibilitySerializers (cpp/binary/binary.go): records
convert field by name (added fields get the zero value, removed ones are dropped, order is free),
vectors, streams and optionals element-wise, optional <-> scalar <-> union by the matched case with
the zero value when there is no counterpart, union <-> union through the greedy matching of
detectUnionChanges (a case without counterpart is a runtime error), integers with the generated
overflow checks, integers <-> canonical decimal strings.

Proved here:
* `conversion_total` — `conv` is total.
* `unchanged_types_convert_exactly` — a value converted between two identical well-formed types is
  unchanged, in both directions, for **every** type (`wfT`) and every value of it (`fitsT`), at any
  depth: records field by field through the by-name lookup, unions through the self-matching of
  detectUnionChanges, vectors and optionals element-wise.
* `integer_conversion_checks_range` — between any two integer types exactly the values inside the
  target's range convert (unchanged); all others are the documented runtime error; `every_integer_has_a_range`.
* `added_field_conversions`, `added_field_round_trip` — adding a field, for every record and value: the reader
  zeroes the new field and keeps the others, the writer for the previous version drops it, and old data comes back
  unchanged; `integer_widening_round_trip`.
* conversions between *different* types, for every well-formed simple type `T` (primitive, enum, record of any
  depth) and every value of it — the documented partially compatible classes:
  `made_optional_or_mandatory` (`T` ↔ `T?`: a value stays, null becomes the zero value of `T`) with
  `optional_round_trip`; `joined_or_left_a_union` (`T` ↔ a union listing `T` at any position: the value is held in
  `T`'s case; another case becomes the zero value) with `union_round_trip`; `optional_and_union_with_null`
  (`T?` ↔ `[null, T, …]`); `vectors_convert_element_by_element` (order and length kept; the first element that cannot
  be converted fails the whole read / write with that element's error).
* `record_fields_convert_by_name`, `integer_narrowing_overflows` — the documented behaviours on concrete shapes
  (kernel-evaluated).
* which pairs of primitives convert at all (with a warning) and which are rejected is C06's
  (`C06.primitive_change_table`, regenerated from source).

float32 <-> float64 is modelled (`convPrim`: exact widening; narrowing behind the generated range check, round to
nearest; infinities are an overflow error). Not modelled (answer `unsupported`, exercised for "runs without
crashing" only): integer <-> floating point, complex numbers, NaN payloads, and number <-> string beyond canonical
decimal integers.

Tie (`checks/c05.py`): random and directed chains M0 -> M1 -> M2 of accepted edits; M2's C++ is
generated and compiled on every run; Lean-encoded streams of M0 and M1 are read and re-written, and
M2 values are written for v0 and v1; outputs are decoded by the Lean reference decoder and compared
with `conv`; predicted runtime errors must be raised.
-/

namespace Yardl.C05
open Yardl Yardl.Evo

theorem conversion_total (reading : Bool) (fuel : Nat) (src dst : ETy) (v : Val) : ∃ r, conv reading fuel src dst v = r := ⟨_, rfl⟩

theorem unchanged_types_convert_exactly (reading : Bool) (fuel : Nat) (t : ETy) (v : Val)
    (hw : wfT t = true) (hv : fitsT t v = true) (h : depth t ≤ fuel) : conv reading fuel t t v = .ok v :=
  conv_self reading fuel t v hw hv h

/-- the hypotheses are met by a nested value that uses records, unions, optionals, vectors and enums -/
example :
    let t : ETy := .record 1 (.cons 10 (.union (.null (.cons (.prim .int32) (.cons (.enum 2 false .int32 [(5, 0), (6, 1)]) .nil))))
      (.cons 11 (.vector (.optional (.prim .string)) none) .nil))
    let v : Val := .record [.case 1 (.int 1), .list [.none, .some (.str [104])]]
    wfT t = true ∧ fitsT t v = true := by decide

/-- every integer primitive has a range: the conversion below is never `unsupported` between integers -/
theorem every_integer_has_a_range (p : Prim) (h : pkind p = .integer) : ∃ lo hi, p.range = some (lo, hi) ∧ lo ≤ 0 ∧ 0 < hi := by
  cases p <;> simp [pkind] at h <;> exact ⟨_, _, rfl, by decide, by decide⟩

/-- integer to integer: exactly the values inside the target's range are converted (unchanged); every other
    value is the runtime error the documentation promises ("numeric overflow when converting between numbers"),
    for every pair of integer types — widening, narrowing and same-width sign changes alike -/
theorem integer_conversion_checks_range (src dst : Prim) (i lo hi : Int) (hs : pkind src = .integer)
    (hd : pkind dst = .integer) (hne : src ≠ dst) (hr : dst.range = some (lo, hi)) :
    convPrim src dst (.int i) = if lo ≤ i ∧ i ≤ hi then .ok (.int i) else .err "Numeric overflow" := by
  unfold convPrim
  simp only [hne, if_false, hs, hd, hr, Bool.and_eq_true, decide_eq_true_eq]

/-- in particular the upper half of an unsigned range has no signed counterpart of the same width -/
example : convPrim .uint32 .int32 (.int 3000000000) = .err "Numeric overflow" ∧ convPrim .int32 .uint32 (.int (-1)) = .err "Numeric overflow" ∧
    convPrim .uint32 .int32 (.int 2147483647) = .ok (.int 2147483647) := by
  refine ⟨rfl, rfl, rfl⟩

/-- adding a field to a record (documented: compatible when optional, else partially compatible), for every record
    and every value: the new reader keeps every old field and gives the new one its zero value; the new writer
    asked for the previous version keeps every old field and drops the new one; so a previous-version value that
    passes through the new version comes back unchanged -/
theorem added_field_conversions (fuel : Nat) (r : Nat) (fs : List (Nat × ETy)) (n : Nat) (t : ETy) (vs : List Val) (x : Val)
    (hd : namesDistinct fs = true) (hfresh : ∀ e ∈ fs, e.1 ≠ n)
    (hw : ∀ e ∈ fs, wfT e.2 = true ∧ depth e.2 ≤ fuel) (hfit : fitsF (fieldsOfList fs) vs = true) :
    conv true (fuel + 1) (.record r (fieldsOfList fs)) (.record r (fieldsOfList (fs ++ [(n, t)]))) (.record vs)
      = .ok (.record (vs ++ [zero (depth t + 1) t])) ∧
    conv false (fuel + 1) (.record r (fieldsOfList (fs ++ [(n, t)]))) (.record r (fieldsOfList fs)) (.record (vs ++ [x]))
      = .ok (.record vs) :=
  ⟨added_field_read fuel r fs n t vs hd hfresh hw hfit, added_field_write fuel r fs n t vs x hd hfresh hw hfit⟩

theorem added_field_round_trip (fuel : Nat) (r : Nat) (fs : List (Nat × ETy)) (n : Nat) (t : ETy) (vs : List Val)
    (hd : namesDistinct fs = true) (hfresh : ∀ e ∈ fs, e.1 ≠ n)
    (hw : ∀ e ∈ fs, wfT e.2 = true ∧ depth e.2 ≤ fuel) (hfit : fitsF (fieldsOfList fs) vs = true) :
    (match conv true (fuel + 1) (.record r (fieldsOfList fs)) (.record r (fieldsOfList (fs ++ [(n, t)]))) (.record vs) with
     | .ok v => conv false (fuel + 1) (.record r (fieldsOfList (fs ++ [(n, t)]))) (.record r (fieldsOfList fs)) v
     | e => e) = .ok (.record vs) :=
  Evo.added_field_round_trip fuel r fs n t vs hd hfresh hw hfit

/-- widening an integer and narrowing it back loses nothing -/
theorem integer_widening_round_trip (a b : Prim) (i lo hi lo' hi' : Int) (ha : pkind a = .integer) (hb : pkind b = .integer)
    (hne : a ≠ b) (hra : a.range = some (lo, hi)) (hrb : b.range = some (lo', hi')) (hin : lo ≤ i ∧ i ≤ hi)
    (hsub : lo' ≤ lo ∧ hi ≤ hi') :
    convPrim a b (.int i) = .ok (.int i) ∧ convPrim b a (.int i) = .ok (.int i) := by
  rw [integer_conversion_checks_range a b i lo' hi' ha hb hne hrb,
      integer_conversion_checks_range b a i lo hi hb ha (Ne.symm hne) hra]
  have h1 : lo' ≤ i ∧ i ≤ hi' := ⟨by omega, by omega⟩
  simp [h1, hin]

/-- a type made optional or mandatory (documented: partially compatible), for every well-formed simple type and
    every value, in both directions (reader of an old stream, writer for an old version): a value stays what
    it is, a missing value becomes the zero value of the type -/
theorem made_optional_or_mandatory (reading : Bool) (fuel : Nat) (t : ETy) (v : Val)
    (hs : isSimple t = true) (hw : wfT t = true) (hv : fitsT t v = true) (h : depth t ≤ fuel) :
    conv reading (fuel + 1) t (.optional t) v = .ok (.some v) ∧
    conv reading (fuel + 1) (.optional t) t (.some v) = .ok v ∧
    conv reading (fuel + 1) (.optional t) t .none = .ok (zero (depth t + 1) t) := by
  have hg := isScalarGen_of_simple hs
  have hx := conv_self reading fuel t v hw hv h
  refine ⟨?_, ?_, conv_from_optional reading fuel t t _ hg⟩
  · rw [conv_to_optional reading fuel t t v hg, hx]
    rfl
  · rw [conv_from_optional reading fuel t t _ hg]
    exact hx

/-- old data of type `T` read by the version that made it optional and written back for the old version is unchanged -/
theorem optional_round_trip (fuel : Nat) (t : ETy) (v : Val)
    (hs : isSimple t = true) (hw : wfT t = true) (hv : fitsT t v = true) (h : depth t ≤ fuel) :
    (match conv true (fuel + 1) t (.optional t) v with
     | .ok w => conv false (fuel + 1) (.optional t) t w
     | e => e) = .ok v := by
  rw [(made_optional_or_mandatory true fuel t v hs hw hv h).1]
  exact (made_optional_or_mandatory false fuel t v hs hw hv h).2.1

/-- the hypotheses are met by a record holding a vector and an enum -/
example :
    let t : ETy := .record 1 (.cons 10 (.vector (.prim .int32) none) (.cons 11 (.enum 2 false .int32 [(5, 0), (6, 1)]) .nil))
    isSimple t = true ∧ wfT t = true ∧ fitsT t (.record [.list [.int 1], .int 1]) = true := by decide

/-- a type that joins or leaves a union (documented: partially compatible): for every union that lists `T` at any
    position, provided no earlier case is compatible with `T` (the converters take the first compatible case):
    a `T` becomes the union's `T` case; the union's `T` case becomes the `T`, any other case the zero value of `T` -/
theorem joined_or_left_a_union (reading : Bool) (fuel : Nat) (t : ETy) (v : Val) (i : Nat) (cs : ECases) (pre post : List (Option ETy))
    (hs : isSimple t = true) (hw : wfT t = true) (hv : fitsT t v = true) (h : depth t ≤ fuel)
    (hcs : cs.toList = pre ++ some t :: post)
    (hpre : ∀ u, some u ∈ pre → (kcmp reading t u).matches = false ∧ (kcmp reading u t).matches = false) :
    conv reading (fuel + 1) t (.union cs) v = .ok (.case (ofFull cs.toList pre.length) v) ∧
    conv reading (fuel + 1) (.union cs) t (.case i v) =
      if toFull cs.toList i = pre.length then .ok v else .ok (zero (depth t + 1) t) := by
  refine ⟨wrap_union reading fuel t v cs pre post hs hw hv h hcs (fun u hu => (hpre u hu).1), ?_⟩
  rw [unwrap_union reading fuel t i v cs pre post hs hw hcs (fun u hu => (hpre u hu).2)]
  simp [conv_self reading fuel t v hw hv h]

/-- … and back unchanged (`Evo.union_round_trip`, where `hnull` is explained: a null case, if any, is the first case) -/
theorem union_round_trip (fuel : Nat) (t : ETy) (v : Val) (cs : ECases) (pre post : List (Option ETy))
    (hs : isSimple t = true) (hw : wfT t = true) (hv : fitsT t v = true) (h : depth t ≤ fuel)
    (hcs : cs.toList = pre ++ some t :: post)
    (hpre : ∀ u, some u ∈ pre → (kcmp true t u).matches = false)
    (hpre' : ∀ u, some u ∈ pre → (kcmp false u t).matches = false)
    (hnull : hasNullL cs.toList = true → pre ≠ []) :
    (match conv true (fuel + 1) t (.union cs) v with
     | .ok w => conv false (fuel + 1) (.union cs) t w
     | e => e) = .ok v :=
  Evo.union_round_trip fuel t v cs pre post hs hw hv h hcs hpre hpre' hnull

/-- the hypotheses are met: `string` joins `[null, int32, string]` — null and `int32` come first and neither is
    compatible with a string in the "matches" sense (int32 ↔ string is a *conversion*, not a match) -/
example :
    let t : ETy := .prim .string
    let cs : ECases := .null (.cons (.prim .int32) (.cons (.prim .string) .nil))
    cs.toList = [none, some (.prim .int32)] ++ some t :: [] ∧
    (∀ u, some u ∈ [none, some (ETy.prim .int32)] → (kcmp true t u).matches = false ∧ (kcmp false u t).matches = false) ∧
    conv true 2 t (.union cs) (.str [104]) = .ok (.case 1 (.str [104])) := by
  refine ⟨rfl, ?_, rfl⟩
  intro u hu
  simp at hu
  subst hu
  exact ⟨rfl, rfl⟩

/-- an optional that becomes a union with a null case, or the reverse (documented: partially compatible) -/
theorem optional_and_union_with_null (reading : Bool) (fuel : Nat) (t : ETy) (v : Val) (rest : ECases) (i : Nat)
    (hw : wfT t = true) (hv : fitsT t v = true) (h : depth t ≤ fuel) :
    conv reading (fuel + 1) (.optional t) (.union (.null (.cons t rest))) (.some v) = .ok (.case 0 v) ∧
    conv reading (fuel + 1) (.optional t) (.union (.null (.cons t rest))) .none = .ok .none ∧
    conv reading (fuel + 1) (.union (.null (.cons t rest))) (.optional t) (.case 0 v) = .ok (.some v) ∧
    conv reading (fuel + 1) (.union (.null (.cons t rest))) (.optional t) (.case (i + 1) v) = .ok .none ∧
    conv reading (fuel + 1) (.union (.null (.cons t rest))) (.optional t) .none = .ok .none := by
  have hx := conv_self reading fuel t v hw hv h
  have hk : (kcmp reading t t).matches = true := by rw [kcmp_self reading t hw]; rfl
  -- behind the null, `T` comes first: it is found at once, at index 1 of the case list, which is case 0 of the values
  have hfc : ∀ g : ETy → Cls, (g t).matches = true →
      firstCase g ((ECases.null (.cons t rest)).toList.drop 1) 1 = some 1 := fun g hg =>
    firstCase_at g [] rest.toList t 1 (by simp) hg
  have hget : (ECases.null (.cons t rest)).toList.getD 1 none = some t := getD_at [none] rest.toList t
  have hnull : hasNullL (ECases.null (.cons t rest)).toList = true := rfl
  refine ⟨?_, rfl, ?_, ?_, rfl⟩
  · rw [conv_optional_to_union, hfc (fun u => kcmp reading t u) hk]
    simp only [hget, Option.getD_some, hx, CRes.map, ofFull, hnull, if_true, Nat.sub_self]
  · rw [conv_union_to_optional, hfc (fun u => kcmp reading u t) hk]
    simp only [toFull, hnull, if_true, Nat.zero_add, hget, Option.getD_some, hx, CRes.map]
  · rw [conv_union_to_optional, hfc (fun u => kcmp reading u t) hk]
    simp only [toFull, hnull, if_true]
    exact if_neg (by omega)

/-- vectors (and streams, converted item by item) whose element type changed: element by element, order and length
    kept; the first element that cannot be converted fails the whole read / write with that element's error -/
theorem vectors_convert_element_by_element (reading : Bool) (fuel : Nat) (s d : ETy) (l l' : Option Nat) :
    (∀ (vs : List Val) (φ : Val → Val), (∀ v ∈ vs, conv reading fuel s d v = .ok (φ v)) →
      conv reading (fuel + 1) (.vector s l) (.vector d l') (.list vs) = .ok (.list (vs.map φ))) ∧
    (∀ (pre post : List Val) (x : Val) (m : String), (∀ v ∈ pre, ∃ w, conv reading fuel s d v = .ok w) →
      conv reading fuel s d x = .err m →
      conv reading (fuel + 1) (.vector s l) (.vector d l') (.list (pre ++ x :: post)) = .err m) :=
  ⟨fun vs φ h => by simp [conv_vector, mapM'_map (conv reading fuel s d) φ vs [] h],
   fun pre post x m h hx => by rw [conv_vector, mapM'_err (conv reading fuel s d) m pre x post [] h hx]⟩

/-- a vector of integers narrowed to a smaller integer type: every element in range is kept, the first one out
    of range raises the documented error -/
example : conv true 3 (.vector (.prim .int32) none) (.vector (.prim .int8) none) (.list [.int 1, .int 300, .int 2]) = .err "Numeric overflow" ∧
    conv true 3 (.vector (.prim .int32) none) (.vector (.prim .int8) none) (.list [.int 1, .int (-128)]) = .ok (.list [.int 1, .int (-128)]) := by
  constructor <;> rfl

def recOld : ETy := .record 1 (.cons 10 (.prim .int32) (.cons 11 (.prim .string) (.cons 12 (.optional (.prim .int16)) .nil)))
def recNew : ETy := .record 1 (.cons 11 (.prim .string) (.cons 13 (.vector (.prim .uint8) none) (.cons 10 (.prim .int64) .nil)))

/-- fields travel by name: `11` and `10` keep their values although their positions changed (`10` widens to int64),
    the removed optional `12` is dropped, the added vector `13` is empty; and back: `12` is null again -/
theorem record_fields_convert_by_name :
    conv true 10 recOld recNew (.record [.int 7, .str [104, 105], .some (.int 3)]) = .ok (.record [.str [104, 105], .list [], .int 7]) ∧
    conv false 10 recNew recOld (.record [.str [104, 105], .list [.int 1], .int 7]) = .ok (.record [.int 7, .str [104, 105], .none]) := by
  constructor <;> rfl

theorem integer_narrowing_overflows :
    conv false 10 recNew recOld (.record [.str [], .list [], .int 4294967296]) = .err "Numeric overflow" := by
  rfl

end Yardl.C05
