import YardlModel.Streams
import YardlProofs.WireRoundTrip

/-! Both buffered writers (C++ and Python flush strategies) refine the byte-level specification for every
    capacity ≥ 10, every fill level and every operation sequence; unchecked writes never leave the buffer. -/

namespace Yardl

namespace COS

theorem flushBuffer_buf (s : COS) : s.flushBuffer.buf = [] := by
  unfold flushBuffer
  split
  · next h => exact List.isEmpty_iff.mp h
  · rfl

/-- `s'` is `s` with the bytes `bs` written after it: the invariant holds and the capacity is the same. -/
structure Emits (s s' : COS) (bs : Bytes) : Prop where
  abs : s'.abs = s.abs ++ bs
  inv : s'.Inv
  cap : s'.cap = s.cap

theorem Emits.refl {s : COS} (h : s.Inv) : Emits s s [] := ⟨(List.append_nil _).symm, h, rfl⟩

theorem Emits.trans {s s₁ s₂ : COS} {a b : Bytes} (h₁ : Emits s s₁ a) (h₂ : Emits s₁ s₂ b) : Emits s s₂ (a ++ b) :=
  ⟨by rw [h₂.abs, h₁.abs, List.append_assoc], h₂.inv, h₂.cap.trans h₁.cap⟩

theorem emits_flush (s : COS) (h : s.Inv) : Emits s s.flushBuffer [] := by
  unfold flushBuffer
  split
  · exact .refl h
  · exact ⟨by simp [abs], ⟨Nat.zero_le _, h.2⟩, rfl⟩

theorem emits_push (s : COS) (bs : Bytes) (h : s.Inv) (hfit : s.buf.length + bs.length ≤ s.cap) :
    Emits s (s.push bs) bs :=
  ⟨by simp [push, abs], ⟨by simpa [push] using hfit, by simpa [push, h.2] using hfit⟩, rfl⟩

/-- "flush if fewer than `k` bytes of room, then write `bs` unchecked", with `|bs| ≤ k ≤ cap`. -/
theorem reserve_push (s : COS) (k : Nat) (bs : Bytes) (h : s.Inv) (hk : k ≤ s.cap) (hb : bs.length ≤ k) :
    Emits s ((if s.rem < k then s.flushBuffer else s).push bs) bs := by
  split
  · have hf := emits_flush s h
    exact hf.trans (emits_push _ bs hf.inv (by rw [flushBuffer_buf, hf.cap]; simp; omega))
  · next hr => exact emits_push s bs h (by unfold rem at hr; have := h.1; omega)

/-- `10` is the widest reserve a step asks for (a 64-bit varint). -/
theorem Emits.foldl (step : COS → WOp → COS)
    (hstep : ∀ (s : COS) (op : WOp), 10 ≤ s.cap → s.Inv → op.ok s.cap → Emits s (step s op) op.spec)
    (ops : List WOp) : ∀ (s : COS), 10 ≤ s.cap → s.Inv → (∀ op ∈ ops, op.ok s.cap) →
    Emits s (ops.foldl step s) (ops.map WOp.spec).flatten := by
  induction ops with
  | nil => intro s _ h _; exact .refl h
  | cons op ops ih =>
    intro s hc hinv hok
    have h1 := hstep s op hc hinv (hok op (by simp))
    exact h1.trans (ih _ (h1.cap ▸ hc) h1.inv fun o ho => h1.cap ▸ hok o (by simp [ho]))

end COS

open COS

/-- The fuel: only a round entered with a full buffer (`rem = 0`) writes nothing; it flushes, and after a flush `rem = cap > 0`,
    so every later round writes at least one byte. -/
theorem Cpp.writeBytesFuel_spec : ∀ (fuel : Nat) (s : COS) (bs : Bytes),
    s.Inv → 0 < s.cap → bs.length + (if s.rem = 0 then 1 else 0) < fuel →
    Emits s (Cpp.writeBytesFuel fuel s bs) bs := by
  intro fuel
  induction fuel with
  | zero => intro s bs _ _ h; omega
  | succ fuel ih =>
    intro s bs hinv hcap hf
    have hb := hinv.1
    unfold Cpp.writeBytesFuel
    split
    · next hfit => exact emits_push s bs hinv (by unfold rem at hfit; omega)
    · next hfit =>
      -- what still fits goes into the buffer, the rest into the flushed buffer
      have h1 : Emits s (if 0 < s.rem then s.push (bs.take s.rem) else s) (bs.take s.rem) := by
        split
        · exact emits_push s _ hinv (by rw [List.length_take]; unfold rem at *; omega)
        · rw [show s.rem = 0 by omega]; exact .refl hinv
      have h2 := h1.trans (emits_flush _ h1.inv)
      have h3 := ih _ (bs.drop s.rem) h2.inv (by rw [h2.cap]; exact hcap)
        (by show _ + (if COS.cap _ - (COS.flushBuffer _).buf.length = 0 then 1 else 0) < fuel
            rw [flushBuffer_buf, h2.cap, List.length_drop, List.length_nil, Nat.sub_zero, if_neg (by omega)]
            split at hf <;> omega)
      simpa using h2.trans h3

theorem COS.step_spec (s : COS) (op : WOp) (hc : 10 ≤ s.cap) (hinv : s.Inv) (hok : op.ok s.cap) :
    Emits s (Cpp.step s op) op.spec ∧ Emits s (Py.step s op) op.spec := by
  cases op with
  | byte b =>
    have := reserve_push s 1 [b] hinv (by omega) (Nat.le_refl _)
    -- C++ tests `rem = 0`, Python `rem < 1`
    exact ⟨by simpa [Cpp.step, WOp.spec, Nat.lt_one_iff] using this, this⟩
  | byteNoCheck b => exact False.elim hok
  | var32 n =>
    have h5 := encVar_length_le5 n hok
    exact ⟨reserve_push s 5 _ hinv (by omega) h5, reserve_push s 10 _ hinv (by omega) (by omega)⟩
  | var64 n =>
    have := reserve_push s 10 _ hinv (by omega) (encVar_length_le10 n hok)
    exact ⟨this, this⟩
  | fixed w n =>
    have := reserve_push s w _ hinv hok (Nat.le_of_eq (encLE_length w n))
    exact ⟨this, this⟩
  | bytes bs =>
    refine ⟨Cpp.writeBytesFuel_spec (bs.length + 2) s bs hinv (by omega) (by split <;> omega), ?_⟩
    have hf := emits_flush s hinv
    simp only [Py.step, WOp.spec]
    split
    · -- written straight to the underlying stream, behind what the buffer held
      refine ⟨?_, ⟨by simp [flushBuffer_buf], hf.inv.2⟩, hf.cap⟩
      have := hf.abs
      simp only [abs, flushBuffer_buf, List.append_nil] at this ⊢
      rw [this]
    · next h => exact emits_push s bs hinv (by unfold rem at h; have := hinv.1; omega)
  | flush => exact ⟨emits_flush s hinv, emits_flush s hinv⟩

theorem Cpp.run_spec (ops : List WOp) (s : COS) (hc : 10 ≤ s.cap) (hinv : s.Inv) (hok : ∀ op ∈ ops, op.ok s.cap) :
    (Cpp.run s ops).abs = s.abs ++ (ops.map WOp.spec).flatten ∧ (Cpp.run s ops).Inv :=
  have h := Emits.foldl Cpp.step (fun s op hc hinv hok => (step_spec s op hc hinv hok).1) ops s hc hinv hok
  ⟨h.abs, h.inv⟩

theorem Py.run_spec (ops : List WOp) (s : COS) (hc : 10 ≤ s.cap) (hinv : s.Inv) (hok : ∀ op ∈ ops, op.ok s.cap) :
    (Py.run s ops).abs = s.abs ++ (ops.map WOp.spec).flatten ∧ (Py.run s ops).Inv :=
  have h := Emits.foldl Py.step (fun s op hc hinv hok => (step_spec s op hc hinv hok).2) ops s hc hinv hok
  ⟨h.abs, h.inv⟩

end Yardl
