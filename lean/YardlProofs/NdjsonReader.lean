import YardlModel.NdjsonReader

/-!
  The NDJSON step reader with its one-line look-ahead returns exactly the values whose lines were written,
  for every protocol with distinct step names and every sequence of values — empty streams anywhere included.
-/

namespace Yardl.Nd

variable {α : Type}

/-- what is still to be read: the look-ahead line, then the lines of the stream -/
def pend (s : St α) : List (Nat × α) := s.unused.toList ++ s.lines

/-! `readValue` sees the state only through `pend`: nothing left, the line asked for, another step's line. -/

theorem readValue_nil (s : St α) (name : Nat) (req : Bool) (h : pend s = []) :
    readValue s name req = if req then .error else .none s := by
  obtain ⟨lines, _ | p⟩ := s <;> simp [pend] at h
  simp [readValue, h]

theorem readValue_hit (s : St α) (name : Nat) (req : Bool) (v : α) (rest : List (Nat × α))
    (h : pend s = (name, v) :: rest) : ∃ s', readValue s name req = .value v s' ∧ pend s' = rest := by
  obtain ⟨lines, _ | p⟩ := s
  · obtain rfl : lines = (name, v) :: rest := by simpa [pend] using h
    exact ⟨⟨rest, none⟩, by simp [readValue], by simp [pend]⟩
  · obtain ⟨rfl, rfl⟩ : p = (name, v) ∧ lines = rest := by simpa [pend] using h
    exact ⟨⟨lines, none⟩, by simp [readValue], by simp [pend]⟩

theorem readValue_miss (s : St α) (name k : Nat) (v : α) (rest : List (Nat × α))
    (h : pend s = (k, v) :: rest) (hk : k ≠ name) : ∃ s', readValue s name false = .none s' ∧ pend s' = pend s := by
  obtain ⟨lines, _ | p⟩ := s <;> simp [pend] at h <;> simp [readValue, h, hk, pend]

theorem readValue_miss_required (s : St α) (name k : Nat) (v : α) (rest : List (Nat × α))
    (h : pend s = (k, v) :: rest) (hk : k ≠ name) : readValue s name true = .error := by
  obtain ⟨lines, _ | p⟩ := s <;> simp [pend] at h <;> simp [readValue, h, hk]

/-- a stream step reads the items up to the end or up to the first line of another step, and leaves that line to be read -/
theorem readStream_spec (name : Nat) : ∀ (vs : List α) (fuel : Nat) (s : St α) (acc : List α) (rest : List (Nat × α)),
    pend s = vs.map (fun v => (name, v)) ++ rest → (∀ k v r, rest = (k, v) :: r → k ≠ name) → vs.length < fuel →
    ∃ s', readStream fuel s name acc = some (acc.reverse ++ vs, s') ∧ pend s' = rest
  | _, 0, _, _, _, _, _, hf => absurd hf (Nat.not_lt_zero _)
  | [], fuel + 1, s, acc, rest, h, hb, _ => by
    rw [List.map_nil, List.nil_append] at h
    unfold readStream
    cases hr : rest with
    | nil =>
      rw [readValue_nil s name false (h.trans hr)]
      exact ⟨s, by simp, h.trans hr⟩
    | cons p r =>
      obtain ⟨s', h1, h2⟩ := readValue_miss s name p.1 p.2 r (h.trans hr) (hb p.1 p.2 r hr)
      rw [h1]
      exact ⟨s', by simp, h2.trans (h.trans hr)⟩
  | v :: vs, fuel + 1, s, acc, rest, h, hb, hf => by
    obtain ⟨s1, h1, h2⟩ := readValue_hit s name false v _ h
    obtain ⟨s', h3, h4⟩ := readStream_spec name vs fuel s1 (v :: acc) rest h2 hb (Nat.lt_of_succ_lt_succ hf)
    unfold readStream
    rw [h1]
    exact ⟨s', by simp [h3], h4⟩

theorem writeLines_names (steps : List (Nat × Bool)) (vals : List (StepVal α)) (k : Nat) (v : α)
    (h : (k, v) ∈ writeLines steps vals) : k ∈ steps.map (·.1) := by
  fun_induction writeLines steps vals with
  | case1 n b rest x vals ih =>
    rcases List.mem_cons.mp h with e | h
    · simp [(Prod.mk.inj e).1]
    · exact List.mem_cons_of_mem _ (ih h)
  | case2 n b rest xs vals ih =>
    rcases List.mem_append.mp h with h | h
    · obtain ⟨_, _, e⟩ := List.mem_map.mp h
      simp [← (Prod.mk.inj e).1]
    · exact List.mem_cons_of_mem _ (ih h)
  | case3 => cases h

/-- every protocol with distinct step names, every sequence of values of its shape: the lines written are read back -/
theorem readSteps_spec (steps : List (Nat × Bool)) (vals : List (StepVal α)) (s : St α)
    (hd : namesDistinct steps = true) (hs : shaped steps vals = true) (h : pend s = writeLines steps vals) :
    ∃ s', readSteps steps s = some (vals, s') ∧ pend s' = [] := by
  fun_induction shaped steps vals generalizing s with
  | case1 => exact ⟨s, rfl, h⟩
  | case2 n rest v vals ih =>
    simp only [namesDistinct, Bool.and_eq_true] at hd
    obtain ⟨s1, h1, h2⟩ := readValue_hit s n true v _ h
    obtain ⟨s', h3, h4⟩ := ih s1 hd.2 hs h2
    exact ⟨s', by simp [readSteps, h1, h3], h4⟩
  | case3 n rest vs vals ih =>
    simp only [namesDistinct, Bool.and_eq_true, Bool.not_eq_true', List.any_eq_false, beq_iff_eq] at hd
    simp only [writeLines] at h
    have hb : ∀ k v r, writeLines rest vals = (k, v) :: r → k ≠ n := by
      intro k v r hr hk
      obtain ⟨e, he, rfl⟩ := List.mem_map.mp (writeLines_names rest vals k v (by rw [hr]; simp))
      exact hd.1 e he hk
    -- the fuel `readSteps` gives: what is pending is at most the lines and the one looked ahead, and one more call gets "no value"
    have hlen : vs.length < s.lines.length + 2 := by
      have h1 : (pend s).length ≤ s.lines.length + 1 := by unfold pend; cases s.unused <;> simp
      have h2 : vs.length ≤ (pend s).length := by rw [h]; simp
      omega
    obtain ⟨s1, h1, h2⟩ := readStream_spec n vs (s.lines.length + 2) s [] (writeLines rest vals) h hb hlen
    obtain ⟨s', h3, h4⟩ := ih s1 hd.2 hs h2
    simp only [List.reverse_nil, List.nil_append] at h1
    exact ⟨s', by simp [readSteps, h1, h3], h4⟩
  | case4 => contradiction

end Yardl.Nd
