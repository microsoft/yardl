import YardlModel.Plan
-- for the equation lemmas of `enc` / `dec`, which Lean would otherwise derive here a second time
import YardlProofs.WireRoundTrip

/-!
  Names do not reach the wire: `enc` and `dec` of a type are those of its plan `erase t`. `denote` undoes
  `emit` up to that erasure, and `emit` undoes `denote` up to the annotations `strip` forgets, so two
  expressions with the same plan differ only in those annotations.
-/

namespace Yardl.Plan
open Yardl

mutual
  theorem enc_erase : ∀ t : Ty, enc (erase t) = enc t
    | .prim p => rfl
    | .enum b _ _ => rfl
    | .record fs => by funext v; simp only [erase, enc, encFields_erase]
    | .union hn cs => by funext v; simp only [erase, enc, encCase_erase]
    | .optional t | .vector t _ | .array t _ => by funext v; simp only [erase, enc, enc_erase t]
    | .map k w => by funext v; simp only [erase, enc, enc_erase k, enc_erase w]
  theorem encFields_erase : ∀ (fs : Fields) (vs : List Val), encFields (eraseF fs) vs = encFields fs vs
    | .nil, _ => rfl
    | .cons _ t r, vs => by simp only [eraseF, encFields, enc_erase t, encFields_erase r]
  theorem encCase_erase : ∀ (fs : Fields) (i : Nat) (x : Val), encCase (eraseF fs) i x = encCase fs i x
    | .nil, _, _ => rfl
    | .cons _ t _, 0, x => congrFun (enc_erase t) x
    | .cons _ _ r, i + 1, x => encCase_erase r i x
end

mutual
  theorem dec_erase : ∀ t : Ty, dec (erase t) = dec t
    | .prim p => rfl
    | .enum b _ _ => rfl
    | .record fs => by funext bs; simp only [erase, dec, decFields_erase]
    | .union hn cs => by funext bs; simp only [erase, dec, decCase_erase]
    | .optional t | .vector t _ | .array t _ => by funext bs; simp only [erase, dec, dec_erase t]
    | .map k w => by funext bs; simp only [erase, dec, dec_erase k, dec_erase w]
  theorem decFields_erase : ∀ (fs : Fields) (bs : Bytes), decFields (eraseF fs) bs = decFields fs bs
    | .nil, _ => rfl
    | .cons _ t r, bs => by simp only [eraseF, decFields, dec_erase t, decFields_erase r]
  theorem decCase_erase : ∀ (fs : Fields) (i : Nat) (bs : Bytes), decCase (eraseF fs) i bs = decCase fs i bs
    | .nil, _, _ => rfl
    | .cons _ t _, 0, bs => congrFun (dec_erase t) bs
    | .cons _ _ r, i + 1, bs => decCase_erase r i bs
end

/-- A fixed shape goes through `reversesFixedDims` twice, in `emit` and in `denote`. -/
theorem reverse_twice_or_never (c : Bool) (d : List Nat) :
    (if c then (if c then d.reverse else d).reverse else if c then d.reverse else d) = d := by
  cases c
  · rfl
  · exact List.reverse_reverse d

theorem emit_ne_none (b : Backend) (t : Ty) : emit b t ≠ .noneSer := by
  cases t with
  | union hn cs => cases hn <;> nofun
  | vector t l => cases l <;> nofun
  | array t k => cases k <;> nofun
  | _ => nofun

/-- The `.union` clause of `denote` matches `| .cons .noneSer rest` and then `| cs`, with overlap, so
    `simp only [denote]` has no usable equation for a list whose head is a variable: the second
    reading is stated here. -/
theorem denote_union_nonnull (b : Backend) (e : SE) (r : SEs) (s : Bool) (k : List Nat) (h : e ≠ .noneSer) :
    denote b (.union (.cons e r) s k) =
      (match denoteF b (.cons e r) with
       | some fs => some (.union false fs)
       | none => none) := by
  cases e <;> first | exact absurd rfl h | rfl

mutual
  theorem denote_emit (b : Backend) : ∀ t : Ty, denote b (emit b t) = some (erase t)
    | .prim _ | .enum _ _ _ => by simp only [emit, denote, erase]
    | .record fs => by simp only [emit, denote, erase, denoteF_emitF b fs]
    | .optional t | .vector t none | .vector t (some _) | .array t .dynamic | .array t (.rank _) => by
      simp only [emit, denote, erase, denote_emit b t]
    | .union true cs => by simp only [emit, denote, erase, denoteF_emitF b cs]
    | .union false .nil => by simp only [emit, emitF, denote, denoteF, erase, eraseF]
    | .union false (.cons n t r) => by
      have h2 := denoteF_emitF b (.cons n t r)
      simp only [emit, emitF] at h2 ⊢
      simp only [denote_union_nonnull b _ _ _ _ (emit_ne_none b t), h2, erase]
    | .array t (.fixed dims) => by
      simp only [emit, denote, erase, denote_emit b t, reverse_twice_or_never]
    | .map k v => by simp only [emit, denote, erase, denote_emit b k, denote_emit b v]
  theorem denoteF_emitF (b : Backend) : ∀ fs : Fields, denoteF b (emitF b fs) = some (eraseF fs)
    | .nil => by simp only [emitF, denoteF, eraseF]
    | .cons n t r => by simp only [emitF, denoteF, eraseF, denote_emit b t, denoteF_emitF b r]
end

/-- The case of `strip_of_denote` for a union without `null`. It stands outside the `mutual` block to
    be proved once for the eleven heads `e` can have, so the induction hypothesis is passed as `ih`. -/
theorem strip_of_denote_union_nonnull (b : Backend) (e : SE) (r : SEs) (s : Bool) (k : List Nat) (p : Ty) (hne : e ≠ .noneSer)
    (ih : ∀ fs, denoteF b (.cons e r) = some fs → stripF (.cons e r) = stripF (emitF b fs))
    (h : denote b (.union (.cons e r) s k) = some p) : strip (.union (.cons e r) s k) = strip (emit b p) := by
  rw [denote_union_nonnull b e r s k hne] at h
  split at h <;> cases h
  simp only [emit, strip, ih _ ‹_›]

mutual
  theorem strip_of_denote (b : Backend) : ∀ (e : SE) (p : Ty), denote b e = some p → strip e = strip (emit b p)
    | .prim q, p, h => by cases h; rfl
    | .noneSer, p, h => nomatch h
    | .enumSer base fl, p, h => by
      cases base <;> cases h
      rfl
    | .optional e, p, h | .vector e, p, h | .fixedVector e _, p, h | .ndarray e _, p, h | .dynNdarray e, p, h => by
      simp only [denote] at h
      split at h <;> cases h
      simp only [emit, strip, strip_of_denote b e _ ‹_›]
    | .union .nil s k, p, h => by cases h; rfl
    | .union (.cons e r) s k, p, h => by
      have ih := stripF_of_denoteF b (.cons e r)
      have ihr := stripF_of_denoteF b r
      cases e
      case noneSer =>
        simp only [denote] at h
        split at h <;> cases h
        simp only [emit, strip, stripF, ihr _ ‹_›]
      all_goals exact strip_of_denote_union_nonnull b _ r s k p nofun ih h
    | .fixedNdarray e d, p, h => by
      simp only [denote] at h
      split at h <;> cases h
      simp only [emit, strip, strip_of_denote b e _ ‹_›, reverse_twice_or_never]
    | .map k v, p, h => by
      simp only [denote] at h
      split at h <;> cases h
      simp only [emit, strip, strip_of_denote b k _ ‹_›, strip_of_denote b v _ ‹_›]
    | .record fs, p, h => by
      simp only [denote] at h
      split at h <;> cases h
      simp only [emit, strip, stripF_of_denoteF b fs _ ‹_›]
  theorem stripF_of_denoteF (b : Backend) : ∀ (es : SEs) (fs : Fields), denoteF b es = some fs → stripF es = stripF (emitF b fs)
    | .nil, fs, h => by cases h; rfl
    | .cons e r, fs, h => by
      simp only [denoteF] at h
      split at h <;> cases h
      simp only [emitF, stripF, strip_of_denote b e _ ‹_›, stripF_of_denoteF b r _ ‹_›]
end

end Yardl.Plan
