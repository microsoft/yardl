import YardlProofs.WirePrefix
import YardlProofs.WireStream
import YardlProofs.PyStreamSeq
import YardlProofs.CppStreamSeq

/-!
# C16 — A truncated stream is reported, never mistaken for a complete one

Specification level: no proper prefix of a valid value / protocol body decodes (the format is
self-delimiting), so a cut can never look complete.

Implementation level (model of the C++ `CodedInputStream` *after* the `fix:` commit def9fde):
for every capacity ≥ 10 and every position of the cut relative to the buffer refills, a primitive
read that runs out of bytes raises end-of-stream — it never returns a value (`ok`) and never reads
outside the valid buffer window (`bad`) — and `VerifyFinished` succeeds iff nothing is left.
Before that commit the model had `fill` in place of `fillOrThrow`; the witnesses found then
(cut at a multiple of the capacity; `0x80` + EOF decoding as 128) are kept in
`corpus/C16/` and are replayed on the real generated C++ by `checks/c16.py`.

Implementation level, Python (`YardlModel/PyStream.lean`, the `CodedInputStream` of `_binary.py`): for every
buffer size and every split of the bytes between buffer and underlying stream, `read_byte`, `read(struct)`,
`read_unsigned_varint`, `read_view` / `read_bytearray` (buffered, refilled, and the larger-than-buffer path)
return exactly the next bytes of the stream, and a read that needs more bytes than the stream holds raises
(`py_reader_*_cut`): `EOFError`, or the `BufferError` of the off-by-one slice in `_fill_buffer`, which
`py_buffer_error_only_when_truncated` shows cannot occur while the stream still holds the bytes asked for.
-/

namespace Yardl.C16

theorem value_prefix_never_decodes (t : Ty) (v : Val) (q more : Bytes) (ht : HasType t v = true)
    (hq : q ++ more = enc t v) (hm : more ≠ []) : dec t q = none :=
  (dec_append t).proper_prefix (fun rest => dec_enc t v rest ht) hq hm

theorem body_prefix_never_decodes (p : Proto) (parts : List (List Nat)) (vals : List StepVal)
    (fuel : Nat) (q more : Bytes) (ht : hasStepVals p vals = true) (hp : partsOk p parts vals fuel)
    (hq : q ++ more = encSteps p parts vals) (hm : more ≠ []) : decSteps p fuel q = none :=
  (decSteps_append fuel p).proper_prefix (fun rest => decSteps_encSteps p parts vals fuel rest ht hp) hq hm

/-- reading a stream of a **previous version**: the compatibility code decodes every field of the old type (the removed ones into
    temporaries) and then converts / drops — whatever the second stage does, a cut inside the old value is an error, because the first
    stage already fails (this is what a reader that *skips* a removed field without reading it would lose) -/
theorem old_version_prefix_never_decodes {α : Type} (told : Ty) (v : Val) (q more : Bytes) (convert : Val → Option α)
    (ht : HasType told v = true) (hq : q ++ more = enc told v) (hm : more ≠ []) :
    ((dec told q).bind fun r => (convert r.1).map fun x => (x, r.2)) = none := by
  rw [value_prefix_never_decodes told v q more ht hq hm]; rfl

/-- Values delivered before the cut are the values written: decoding only depends on the bytes
    consumed, so whatever a reader decoded from a prefix it also decodes from the full stream. -/
theorem delivered_values_are_written (t : Ty) (q more : Bytes) (v : Val) (r : Bytes)
    (h : dec t q = some (v, r)) : dec t (q ++ more) = some (v, r ++ more) :=
  dec_append t q more v r h

theorem reader_byte_cut (s : CIS) (hinv : s.Inv) (hp : s.pending = []) : s.readByte = .eos :=
  CIS.readByte_cut s hp

theorem reader_var64_cut (s : CIS) (hc : 10 ≤ s.cap) (hinv : s.Inv) (n : Nat) (more : Bytes)
    (hn : n < 2 ^ 64) (hp : s.pending ++ more = encVar n) (hm : more ≠ []) : s.readVar64 = .eos :=
  CIS.readVar_cut s 10 (by omega) (by omega) hinv n more (encVar_length_le10 n hn) hp hm

theorem reader_var32_cut (s : CIS) (hc : 10 ≤ s.cap) (hinv : s.Inv) (n : Nat) (more : Bytes)
    (hn : n < 2 ^ 32) (hp : s.pending ++ more = encVar n) (hm : more ≠ []) : s.readVar32 = .eos :=
  CIS.readVar_cut s 5 (by omega) (by omega) hinv n more (encVar_length_le5 n hn) hp hm

theorem reader_bytes_cut (s : CIS) (hc : 0 < s.cap) (hinv : s.Inv) (n : Nat)
    (h : s.pending.length < n) : s.readBytes n = .eos :=
  CIS.readBytes_cut s hc hinv n h

theorem verify_finished_iff (s : CIS) (hc : 0 < s.cap) (hinv : s.Inv) :
    (s.pending = [] → ∃ s', s.verifyFinished = .ok () s') ∧
    (s.pending ≠ [] → s.verifyFinished = .notFinished) :=
  ⟨CIS.verifyFinished_ok s hc, CIS.verifyFinished_leftover s hc hinv⟩

/-- **A truncated stream ends in `EndOfStreamException` in the C++ input stream** — over whole read sequences: whatever
    strict prefix of the written data the stream holds (cut between two items or inside one), for every capacity ≥ 10 and
    every split of that prefix between window and underlying stream. -/
theorem cpp_reader_truncated_sequence_is_eos (items : List CItem) (s : CIS) (hc : 10 ≤ s.cap) (hinv : s.Inv)
    (hi : ∀ i ∈ items, i.ok) (more : Bytes) (hm : more ≠ []) (hp : s.pending ++ more = encCItems items) :
    s.readItems items = .eos :=
  CIS.readItems_cut items s (by omega) hinv hi more hm hp

/-- non-vacuity: 300 as a varint cut after its first byte, behind a complete byte -/
example : (⟨10, [7, 0xac], false, []⟩ : CIS).pending ++ [0x02] = encCItems [.byte 7, .var64 300] := by
  simp [CIS.pending, encCItems, CItem.enc, encVar]

theorem py_reader_byte (s : PIS) (hc : 0 < s.cap) (hinv : s.Inv) (b : UInt8) (rest : Bytes) (hp : s.pending = b :: rest) :
    ∃ s', s.readByte = .ok b s' ∧ s'.pending = rest ∧ s'.Inv ∧ s'.cap = s.cap :=
  PIS.readByte_ok s hc hinv b rest hp

theorem py_reader_fixed (s : PIS) (w : Nat) (hc : w ≤ s.cap) (hinv : s.Inv) (bs rest : Bytes) (hl : bs.length = w)
    (hp : s.pending = bs ++ rest) :
    ∃ s', s.readFixed w = .ok (CIS.leVal bs) s' ∧ s'.pending = rest ∧ s'.Inv ∧ s'.cap = s.cap :=
  PIS.readFixed_ok s w hc hinv bs rest hl hp

theorem py_reader_varint (s : PIS) (hc : 0 < s.cap) (hinv : s.Inv) (n : Nat) (rest : Bytes) (hp : s.pending = encVar n ++ rest) :
    ∃ s', s.readVar = .ok n s' ∧ s'.pending = rest ∧ s'.Inv ∧ s'.cap = s.cap :=
  PIS.readVar_ok s hc hinv n rest hp

/-- byte runs of any length, also longer than the buffer -/
theorem py_reader_bytes (s : PIS) (hinv : s.Inv) (bs rest : Bytes) (hp : s.pending = bs ++ rest) :
    ∃ s', s.readBytes bs.length = .ok bs s' ∧ s'.pending = rest ∧ s'.Inv ∧ s'.cap = s.cap :=
  PIS.readBytes_ok s hinv bs rest hp

theorem py_reader_byte_cut (s : PIS) (hp : s.pending = []) : s.readByte.isError = true :=
  PIS.readByte_cut s hp

theorem py_reader_fixed_cut (s : PIS) (w : Nat) (hp : s.pending.length < w) : (s.readFixed w).isError = true :=
  PIS.readFixed_cut s w hp

theorem py_reader_varint_cut (s : PIS) (hc : 0 < s.cap) (hinv : s.Inv) (n : Nat) (more : Bytes)
    (hp : s.pending ++ more = encVar n) (hm : more ≠ []) : s.readVar.isError = true :=
  PIS.readVar_cut s hc hinv n more hp hm

theorem py_reader_bytes_cut (s : PIS) (n : Nat) (hp : s.pending.length < n) : (s.readBytes n).isError = true :=
  PIS.readBytes_cut s n hp

/-- **A truncated stream is never read successfully by the Python input stream** — over whole read sequences: whatever
    strict prefix of the written data the stream holds (cut between two items or inside one, varints included), for every
    buffer size and every split of that prefix between buffer and underlying stream, the reader that issues the matching
    reads ends in an error (`EOFError`, or the `BufferError` of `_fill_buffer`), never in values. -/
theorem py_reader_truncated_sequence_is_an_error (items : List RItem) (s : PIS) (hc : 0 < s.cap) (hinv : s.Inv)
    (hf : ∀ i ∈ items, i.fits s.cap) (more : Bytes) (hm : more ≠ []) (hp : s.pending ++ more = encItems items) :
    (s.readItems items).isError = true :=
  PIS.readItems_cut items s hc hinv hf more hm hp

/-- non-vacuity: a varint, a 4-byte number and a run, cut inside the run, in a 4-byte buffer -/
example : (PIS.init 4 [0xac, 0x02, 1, 0, 0, 0, 9, 9]).pending ++ [9] = encItems [.var 300, .fixed [1, 0, 0, 0], .bytes [9, 9, 9]] := by
  simp [PIS.init, PIS.pending, encItems, RItem.enc, encVar]

/-- the resize quirk of `_fill_buffer` never fires while the stream still holds what is asked for -/
theorem py_buffer_error_only_when_truncated (s : PIS) (n : Nat) (hc : n ≤ s.cap) (hinv : s.Inv) (hn : n ≤ s.pending.length) :
    ∃ s1, s.ensure n = .ok () s1 := by
  obtain ⟨s1, h, _⟩ := PIS.ensure_ok s n hc hinv hn
  exact ⟨s1, h⟩

/-- and it does fire on a truncated stream: 3 bytes in a 4-byte buffer, one consumed, then 4 more wanted -/
example : (match (PIS.init 4 [1, 2, 3]).readByte with
    | .ok _ s => (match s.readFixed 4 with | .bufferError => true | _ => false)
    | _ => false) = true := by decide

example : (PIS.init 4 [1, 2, 3]).Inv := PIS.init_inv 4 [1, 2, 3]

/-! Non-vacuity: the two situations the unfixed reader got wrong, at capacity 10. -/
-- cut exactly at a refill boundary: window consumed, underlying stream empty, eof not yet seen
example : (⟨10, [], false, []⟩ : CIS).Inv ∧ (⟨10, [], false, []⟩ : CIS).pending = [] := by
  simp [CIS.Inv, CIS.pending]
-- a varint (300 = ac 02) cut after its first byte
example : (⟨10, [0xac], false, []⟩ : CIS).pending ++ [0x02] = encVar 300 := by
  simp [CIS.pending, encVar]

end Yardl.C16
