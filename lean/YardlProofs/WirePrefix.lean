import YardlProofs.WireRoundTrip

/-! Decoders only look at the bytes they consume (`Extends`), hence no proper prefix of a valid
    encoding decodes (`Extends.proper_prefix`): the format is self-delimiting / prefix-free.

    Every decoder of `Wire` is built from `decVar`, `decLE`, `takeN` and single-byte reads by
    sequencing (`match f bs with | none => none | some (a, r) => g a r`), and `Extends` is closed
    under sequencing (`Extends.andThen`); so each decoder's proof is its own definition read as a
    chain of `andThen`s. -/

namespace Yardl

/-- A decoder that only looks at what it consumes. -/
def Extends {α : Type} (f : Dec α) : Prop :=
  ∀ bs m a r, f bs = some (a, r) → f (bs ++ m) = some (a, r ++ m)

namespace Extends
variable {α β : Type}

theorem ret (a : α) : Extends fun bs => some (a, bs) := by
  intro bs m a' r h
  cases h
  rfl

theorem andThen {f : Dec α} {g : α → Dec β} (hf : Extends f) (hg : ∀ a, Extends (g a)) :
    Extends fun bs => match f bs with
      | none => none
      | some (a, r) => g a r := by
  intro bs m b r h
  dsimp only at h ⊢
  split at h
  · cases h
  · next a r' hfa => rw [hf bs m a r' hfa]; exact hg a r' m b r h

/-- Sequencing with a decoder that consumes nothing. -/
theorem map {f : Dec α} (hf : Extends f) (k : α → β) :
    Extends fun bs => match f bs with
      | none => none
      | some (a, r) => some (k a, r) :=
  hf.andThen fun a => ret (k a)

theorem ite {c : Prop} [Decidable c] {f g : Dec α} (hf : Extends f) (hg : Extends g) :
    Extends fun bs => if c then f bs else g bs := by
  intro bs m
  dsimp only
  split
  · exact hf bs m
  · exact hg bs m

theorem fail : Extends (fun _ => none : Dec α) := nofun

/-- `he` has the form of the round-trip lemmas (`dec_enc`, `decVar_encVar`, …), so that they can be handed over as they are. -/
theorem proper_prefix {f : Dec α} (hf : Extends f) {e : Bytes} {a : α} (he : ∀ rest, f (e ++ rest) = some (a, rest))
    {q more : Bytes} (hq : q ++ more = e) (hm : more ≠ []) : f q = none := by
  cases hd : f q with
  | none => rfl
  | some p =>
    have h := (hf q more p.1 p.2 hd).symm.trans (hq ▸ List.append_nil e ▸ he [])
    exact absurd (List.append_eq_nil_iff.mp (Prod.mk.inj (Option.some.inj h)).2).2 hm

end Extends

theorem decVar_append : Extends decVar := by
  intro bs m
  induction bs with
  | nil => nofun
  | cons b bs ih =>
    intro n r h
    simp only [decVar, List.cons_append] at h ⊢
    split
    · simpa [*] using h
    · simp only [*, if_false] at h
      split at h
      · cases h
      · next n' r' hd => rw [ih n' r' hd]; cases h; rfl

theorem decVar_proper_prefix (n : Nat) (q more : Bytes) (hq : q ++ more = encVar n) (hm : more ≠ []) :
    decVar q = none :=
  decVar_append.proper_prefix (decVar_encVar n) hq hm

/- From here on a `match` whose scrutinee is no constructor application (every sequencing `match`) has to be unfolded
   for `exact` to see that a decoder is the chain of `andThen`s given for it, which Lean's smart unfolding never does:
   without the option the two sides print alike and do not unify. A file that adds a decoder needs the option too. -/
set_option smartUnfolding false

theorem decLE_append : ∀ w, Extends (decLE w)
  | 0 => .ret 0
  | w + 1 => fun
    | [], _, _, _, h => nomatch h
    | b :: bs, m, n, r, h => ((decLE_append w).map fun n => b.toNat + 256 * n) bs m n r h

theorem takeN_append : ∀ k, Extends (takeN k)
  | 0 => .ret []
  | k + 1 => fun
    | [], _, _, _, h => nomatch h
    | b :: bs, m, t, r, h => ((takeN_append k).map fun t => b :: t) bs m t r h

theorem decPrim_append (p : Prim) : Extends (decPrim p) := by
  cases p
  case bool | int8 | uint8 =>
    intro bs m v r h
    cases bs with
    | nil => cases h
    | cons b bs => cases h; rfl
  case int16 | int32 | int64 | date | time | datetime =>
    exact decVar_append.map fun n => Val.int (unzigzag n)
  case uint16 | uint32 | uint64 | size => exact decVar_append.map fun n => Val.int n
  case float32 => exact (decLE_append 4).map Val.f32
  case float64 => exact (decLE_append 8).map Val.f64
  case complexfloat32 =>
    exact (decLE_append 4).andThen fun re => (decLE_append 4).map (Val.c32 re)
  case complexfloat64 =>
    exact (decLE_append 8).andThen fun re => (decLE_append 8).map (Val.c64 re)
  case string => exact decVar_append.andThen fun n => (takeN_append n).map Val.str

theorem decList_append {f : Dec Val} (hf : Extends f) : ∀ n, Extends (decList f n)
  | 0 => .ret []
  | n + 1 => hf.andThen fun v => (decList_append hf n).map fun vs => v :: vs

theorem decKVs_append {fk fv : Dec Val} (hk : Extends fk) (hv : Extends fv) : ∀ n, Extends (decKVs fk fv n)
  | 0 => .ret []
  | n + 1 => hk.andThen fun k => hv.andThen fun v =>
      (decKVs_append hk hv n).map fun kvs => (k, v) :: kvs

theorem decDims_append : ∀ n, Extends (decDims n)
  | 0 => .ret []
  | n + 1 => decVar_append.andThen fun d => (decDims_append n).map fun ds => d :: ds

mutual
  theorem dec_append : (t : Ty) → Extends (dec t)
    | .prim p => decPrim_append p
    | .enum b _ _ => decPrim_append b
    | .record fs => Extends.map (decFields_append fs) Val.record
    | .optional t => fun
      | [], _, _, _, h => nomatch h
      | _ :: bs, m, v, r, h =>
        (Extends.ite (.ret Val.none) ((dec_append t).map Val.some)) bs m v r h
    | .union false cs => decVar_append.andThen fun i =>
        Extends.map (decCase_append cs i) (Val.case i)
    -- the step after the tag is a `match` on the tag here, not a lambda whose type gives `g` as for
    -- `.union false`, and unification does not find `g` through the decoder's unfolded `match`es
    | .union true cs => decVar_append.andThen
        (g := fun i r => match i with
          | 0 => some (Val.none, r)
          | j + 1 => match decCase cs j r with
            | none => none
            | some (x, r') => some (Val.case j x, r'))
        fun
        | 0 => .ret Val.none
        | j + 1 => Extends.map (decCase_append cs j) (Val.case j)
    | .vector t none => decVar_append.andThen fun n =>
        (decList_append (dec_append t) n).map Val.list
    | .vector t (some n) => (decList_append (dec_append t) n).map Val.list
    | .array t .dynamic => decVar_append.andThen fun nd => (decDims_append nd).andThen fun shape =>
        (decList_append (dec_append t) (prod shape)).map (Val.arr shape)
    | .array t (.rank nd) => (decDims_append nd).andThen fun shape =>
        (decList_append (dec_append t) (prod shape)).map (Val.arr shape)
    | .array t (.fixed dims) =>
        (decList_append (dec_append t) (prod dims)).map (Val.arr dims)
    | .map kt vt => decVar_append.andThen fun n =>
        (decKVs_append (dec_append kt) (dec_append vt) n).map Val.map
  theorem decFields_append : (fs : Fields) → ∀ (bs m : Bytes) (vs : List Val) (r : Bytes),
      decFields fs bs = some (vs, r) → decFields fs (bs ++ m) = some (vs, r ++ m)
    | .nil => Extends.ret []
    | .cons _ t fs => (dec_append t).andThen fun v => Extends.map (decFields_append fs) fun vs => v :: vs
  theorem decCase_append : (cs : Fields) → ∀ (i : Nat) (bs m : Bytes) (v : Val) (r : Bytes),
      decCase cs i bs = some (v, r) → decCase cs i (bs ++ m) = some (v, r ++ m)
    | .nil, _ => Extends.fail
    | .cons _ t _, 0 => dec_append t
    | .cons _ _ cs, j + 1 => decCase_append cs j
end

theorem decBlocks_append (t : Ty) : ∀ fuel, Extends (decBlocks t fuel)
  | 0 => .fail
  | fuel + 1 => decVar_append.andThen fun n => .ite (c := n = 0) (.ret [])
      ((decList_append (dec_append t) n).andThen fun vs =>
        (decBlocks_append t fuel).map fun ws => vs ++ ws)

theorem decSteps_append (fuel : Nat) : ∀ p : Proto, Extends (decSteps p fuel)
  | [] => .ret []
  | s :: ss => .ite
      ((decBlocks_append s.ty fuel).andThen fun items =>
        (decSteps_append fuel ss).map fun vs => .stream items :: vs)
      ((dec_append s.ty).andThen fun v =>
        (decSteps_append fuel ss).map fun vs => .single v :: vs)

end Yardl
