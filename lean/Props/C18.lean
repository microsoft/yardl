import YardlProofs.Imports
import YardlProofs.Namespaces
import YardlProofs.Resolve
import YardlGenerated.Tables

/-!
# C18 — Package imports resolve correctly for every import graph

Model: `YardlModel/Imports.lean` (`collectPackages`, structural on the depth counter, so loading
terminates by construction for every graph). Theorems hold for *every* world (any number of
packages, any shape):

* a successful load contains the root, every package it contains is reachable and has all its
  imports loaded, and no namespace is bound to two directories (`load_ok_sound`);
* hence every reachable package is loaded (`every_reachable_package_loaded`; a missing one makes loading fail:
  `missing_import_is_an_error`) and two reachable directories never claim the same namespace — a reachable conflict
  makes loading fail (`namespace_conflict_is_an_error`).

After the load (`YardlModel/Namespaces.lean`, `YardlModel/Resolve.lean`), for every acyclic graph:
`every_importer_references_all_its_imports` (`parsePackageNamespaces`), `namespaces_are_listed_imports_first`
(`flattenNamespaces`), and name resolution: `names_resolve_into_imported_packages_only`,
`a_package_sees_exactly_what_it_imports`, `imported_types_are_usable`, `transitively_imported_types_are_usable`,
`child_references_are_imports`.

Cycle / depth errors and the order dependence at the depth limit are kept as kernel-checked
witnesses; the general statements "cycle ⇒ error", "conflict ⇒ error", "deeper than the limit ⇒ error"
are decided for all graphs on ≤ 3 packages (all import orders) and random larger ones by
`checks/c18.py`, which compares the model with an independent graph-theoretic specification and
with the real CLI.
-/

namespace Yardl.C18
open Yardl.Imports Yardl.Generated

theorem load_ok_sound (w : World) (root : Nat) (c : Coll) (h : load w maxImportDepth root = .ok c) :
    (∃ p, w root = some p ∧ (p.ns, root) ∈ c) ∧ (∀ x ∈ c, Closed w c x ∧ Reach w root x.2) ∧ Fn c :=
  load_ok w maxImportDepth root c h

theorem every_reachable_package_loaded (w : World) (root : Nat) (c : Coll)
    (h : load w maxImportDepth root = .ok c) (dir : Nat) (hr : Reach w root dir) :
    ∃ p, w dir = some p ∧ (p.ns, dir) ∈ c :=
  reachable_loaded w maxImportDepth root c h dir hr

theorem namespace_conflict_is_an_error (w : World) (root d₁ d₂ : Nat) (p₁ p₂ : Pkg)
    (h₁ : Reach w root d₁) (h₂ : Reach w root d₂) (w₁ : w d₁ = some p₁) (w₂ : w d₂ = some p₂)
    (hns : p₁.ns = p₂.ns) (hne : d₁ ≠ d₂) : ∀ c, load w maxImportDepth root ≠ .ok c := by
  intro c h
  exact hne (no_namespace_conflict w maxImportDepth root c h d₁ d₂ p₁ p₂ h₁ h₂ w₁ w₂ hns)

theorem missing_import_is_an_error (w : World) (root dir : Nat) (hr : Reach w root dir) (hm : w dir = none) :
    ∀ c, load w maxImportDepth root ≠ .ok c := by
  intro c h
  obtain ⟨p, hp, _⟩ := reachable_loaded w maxImportDepth root c h dir hr
  rw [hm] at hp
  cases hp

/-! ### Witnesses (kernel-evaluated) -/

/-- The error a load ends with (`none` = success). -/
def errOf (r : Except LoadErr Coll) : Option LoadErr :=
  match r with
  | .ok _ => none
  | .error e => some e

/-- the world given by a list of edges: directory `d` holds the package of namespace `d` that imports the directories listed for `d`;
    a directory the list does not mention is missing -/
def mk (edges : List (Nat × List Nat)) : World := fun d =>
  match edges.find? (fun e => e.1 == d) with
  | some e => some ⟨d, e.2⟩
  | none => none

theorem two_cycle_rejected : errOf (load (mk [(0, [1]), (1, [0])]) maxImportDepth 0) = some .cycle := by decide
theorem self_import_rejected : errOf (load (mk [(0, [0])]) maxImportDepth 0) = some .cycle := by decide
theorem cycle_through_second_import_rejected :
    errOf (load (mk [(0, [1, 2]), (1, []), (2, [0])]) maxImportDepth 0) = some .cycle := by decide
theorem diamond_accepted : errOf (load (mk [(0, [1, 2]), (1, [3]), (2, [3]), (3, [])]) maxImportDepth 0) = none := by decide

/-- two directories (1 and 2) both claiming namespace 7 -/
def conflictWorld : World := fun d =>
  match d with
  | 0 => some ⟨0, [1, 2]⟩ | 1 => some ⟨7, []⟩ | 2 => some ⟨7, []⟩ | _ => none
theorem conflict_rejected : errOf (load conflictWorld maxImportDepth 0) = some .conflict := by decide

/-- a chain 0 → 1 → … → 11 is deeper than the limit -/
def chain12 : World := mk ((List.range 11).map (fun i => (i, [i + 1])) ++ [(11, [])])
theorem deep_chain_rejected : errOf (load chain12 maxImportDepth 0) = some .depth := by decide

/-- KNOWN FINDING (order dependence at the depth limit): root 0 imports the chain head 1 and the
    leaf 10; the chain 1 → … → 9 → 10 reaches 10 at depth 10. Listing the chain first fails,
    listing the leaf first memoises it and succeeds. -/
def diamondAtLimit (first second : Nat) : World :=
  mk ([(0, [first, second])] ++ (List.range 9).map (fun i => (i + 1, [i + 2])) ++ [(10, [])])
theorem order_dependence_at_limit :
    errOf (load (diamondAtLimit 1 10) maxImportDepth 0) = some .depth ∧
    errOf (load (diamondAtLimit 10 1) maxImportDepth 0) = none := by decide

/-! ### usable from every importer: `References` after `parsePackageNamespaces` -/

/-- for every acyclic import graph (`rank` decreases along every import — what a successful load and the dependency sort give), after the
    memoised depth-first walk of `parsePackageNamespaces` every parsed namespace refers to exactly the namespaces of the packages it imports, in
    manifest order — also when an imported package had already been parsed through another importer (a diamond, a shortcut edge) -/
theorem every_importer_references_all_its_imports (G : Nat → List Nat) (rank : Nat → Nat) (hr : ∀ n, ∀ i ∈ G n, rank i < rank n)
    (fuel root : Nat) (hf : rank root < fuel) :
    ∀ m, Namespaces.has (Namespaces.parseNs G fuel root []) m = true →
      Namespaces.get (Namespaces.parseNs G fuel root []) m = some (G m) :=
  fun m hm => (Namespaces.parseNs_spec G rank hr fuel root [] hf).complete m rfl hm

/-- the hypotheses are met by the shortcut world Top → [Basic, Mid], Mid → [Basic] — and Mid does refer to Basic although Top reached it first -/
example :
    let G : Nat → List Nat := fun n => if n = 0 then [1, 2] else if n = 2 then [1] else []
    Namespaces.parseNs G 5 0 [] = [(0, [1, 2]), (1, []), (2, [1])] := by decide


/-- the list of namespaces every validation pass and generator walks (`flattenNamespaces`): each namespace once, and every namespace after all the
    namespaces it refers to — for every acyclic graph of references -/
theorem namespaces_are_listed_imports_first (refs : Nat → List Nat) (rank : Nat → Nat) (hr : ∀ n, ∀ i ∈ refs n, rank i < rank n)
    (fuel root : Nat) (hf : rank root < fuel) :
    Namespaces.Ordered refs (Namespaces.flatten refs fuel root []) ∧ root ∈ Namespaces.flatten refs fuel root [] :=
  have s := Namespaces.flatten_spec refs rank hr fuel root [] hf
  ⟨s.ordered ⟨List.nodup_nil, by intro pre m post h; simp at h⟩, s.self⟩

example :
    let refs : Nat → List Nat := fun n => if n = 0 then [1, 2] else if n = 2 then [1] else []
    Namespaces.flatten refs 5 0 [] = [1, 2, 0] := by decide


/-! ### which namespaces a package can refer to (`YardlModel/Resolve.lean`) -/

/-- a type name resolves only into the package itself or into a package it imports, directly or through its imports — and only to a
    definition that exists; in particular not into a package that merely happens to be loaded because somebody else imports it
    (the defect fixed in 3dc19f7: the world `App → [B, C]` with `B` using `C.T`) -/
theorem names_resolve_into_imported_packages_only (refs : Nat → List Nat) (defs : List (Nat × Nat)) (fuel cur : Nat) (nm : Resolve.Name) (m t : Nat)
    (h : Resolve.resolve defs (Resolve.visible refs fuel cur) cur nm = some (m, t)) :
    (m = cur ∨ Resolve.Reach refs cur m) ∧ (m, t) ∈ defs :=
  ⟨Resolve.visible_sound refs fuel cur m (Resolve.resolve_some h).1, (Resolve.resolve_some h).2⟩

/-- the types of an imported package are usable under their namespace from every package that imports it -/
theorem imported_types_are_usable (refs : Nat → List Nat) (defs : List (Nat × Nat)) (fuel cur m t : Nat)
    (hi : m ∈ refs cur) (hd : (m, t) ∈ defs) :
    Resolve.resolve defs (Resolve.visible refs (fuel + 1) cur) cur (.qual m t) = some (m, t) :=
  Resolve.resolve_qual cur (List.mem_cons_of_mem _ (Resolve.allRefs_direct refs fuel cur [] m hi)) hd

/-- **a package sees exactly itself and what it imports, directly or through its imports** (every acyclic import graph, any import order;
    `rank` witnesses acyclicity, which the loader has established) -/
theorem a_package_sees_exactly_what_it_imports (refs : Nat → List Nat) (rank : Nat → Nat) (hr : ∀ n, ∀ i ∈ refs n, rank i < rank n)
    (fuel n m : Nat) (hf : rank n < fuel) : m ∈ Resolve.visible refs fuel n ↔ (m = n ∨ Resolve.Reach refs n m) := by
  refine ⟨Resolve.visible_sound refs fuel n m, fun h => ?_⟩
  rcases h with rfl | h
  · exact List.mem_cons_self
  · exact Resolve.visible_complete refs rank hr fuel n m hf h

/-- so the types of every package reached through imports resolve under their namespace, however many packages lie in between -/
theorem transitively_imported_types_are_usable (refs : Nat → List Nat) (rank : Nat → Nat) (hr : ∀ n, ∀ i ∈ refs n, rank i < rank n)
    (defs : List (Nat × Nat)) (fuel cur m t : Nat) (hf : rank cur < fuel) (hi : Resolve.Reach refs cur m) (hd : (m, t) ∈ defs) :
    Resolve.resolve defs (Resolve.visible refs fuel cur) cur (.qual m t) = some (m, t) :=
  Resolve.resolve_qual cur (Resolve.visible_complete refs rank hr fuel cur m hf hi) hd

/-- `GetAllChildReferences` returns nothing that is not imported -/
theorem child_references_are_imports (refs : Nat → List Nat) (f n m : Nat) (h : m ∈ Resolve.allRefs refs f n []) : Resolve.Reach refs n m :=
  Resolve.allRefs_nil_sound refs f n m h

/-- non-vacuity and the witness of the repaired defect: `B` (1) no longer resolves `C.T` in `App(0) → [B(1), C(2)]`; `App` does -/
example :
    let refs : Nat → List Nat := fun n => if n = 0 then [1, 2] else []
    Resolve.resolve [(2, 7)] (Resolve.visible refs 5 1) 1 (.qual 2 7) = none ∧
    Resolve.resolve [(2, 7)] (Resolve.visible refs 5 0) 0 (.qual 2 7) = some (2, 7) := by decide

end Yardl.C18
