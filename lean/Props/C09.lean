import YardlProofs.Rules
import YardlModel.TypeRules
import YardlGenerated.Pipeline
import Props.C11
import YardlProofs.Topo

/-!
# C09 — The language rules are enforced wherever a violation occurs

Proved here:
* `violation_anywhere_rejects` / `accepted_means_every_node_ok` — in the model of a validation pass that
  applies a rule to every node the traversal reaches (`Rules.validType`), a node that breaks the rule
  makes the whole type rejected **wherever** it occurs: directly, inside generic arguments, optionals,
  union cases, vectors, arrays, map keys or values, at any depth; for every rule.
* `visitor_reaches_every_child` — over facts regenerated from the current source (go/types + go/ast):
  every field of every `dsl` node struct that can hold child nodes is walked by `VisitChildren`,
  except the derived back-references listed here (`Resolved*`, `Namespace.References`, the instantiated
  `DefinitionMeta.TypeArguments` / `TypeParameters`). (Before fix 4cc805c `SubscriptArgument` had no
  case at all: its diagnostics had no file.)
* `all_rule_passes_in_pipeline` — the passes that implement the documented rules are all present in
  `Validate`'s pass list, and name / structure rules run before type resolution.
* `visitor_covers_type_nodes` — the node kinds the rules are stated on are among the walked fields.
* `import_and_version_errors_returned` — from C11: the errors of imported packages (recursive
  parse) and of every previous version (parse, validate, evolution) are returned to the caller.
* `reference_cycle_is_rejected` — from the dependency sort (`Topo.cycle_is_rejected`).
* `type_rules_enforced_anywhere` with `null_must_be_first`, `null_alone_is_rejected`, `unions_do_not_nest`,
  `map_key_must_be_scalar`, `array_dimension_rules` — the union / map / array rules themselves
  (`YardlModel/TypeRules.lean`: one predicate per type node, over types whose names are primitives), and that a node
  breaking them is rejected wherever it occurs; `accepted_enum_is_well_formed` (what `validateEnums` guarantees).

Tie (`checks/c09.py`): random types over primitive names (40 % of them rule-breaking) judged by `yardl validate` and by
`TypeRules.typeOk` (verdicts must agree); one violation of each documented rule is injected into valid random packages at
every kind of position and placement; `yardl validate` must fail and name the offending file.
-/

namespace Yardl.C09
open Yardl.Syntax Yardl.Rules Yardl.Generated

theorem accepted_means_every_node_ok (rule : Sur → Bool) (t : Sur) (h : validType rule t = true) :
    ∀ s, Sub s t → rule s = true :=
  fun s hs => List.all_eq_true.mp h s (sub_mem_subterms hs)

theorem violation_anywhere_rejects (rule : Sur → Bool) (s t : Sur) (h : Sub s t) (hbad : rule s = false) :
    validType rule t = false :=
  Bool.eq_false_iff.mpr fun hall => Bool.false_ne_true (hbad ▸ accepted_means_every_node_ok rule t hall s h)

/-- non-vacuity: a stream-like marker type six levels down, inside a generic argument inside a union case -/
example :
    let bad : Sur := .named "Stream" .nil
    let t : Sur := .vector (.map (.named "string" .nil) (.opt (.union (.cons none (.named "int" .nil)
      (.cons none (.named "Box" (.cons (.array bad none) .nil)) .nil))))) none
    Sub bad t := by
  refine .vec _ _ _ (.val _ _ _ (.opt _ _ (.case _ _ _ (.tail _ _ _ _ (.head _ _ _)) (.arg _ _ _ _ (.head _ _) (.arr _ _ _ (.refl _))))))

/-! ### the rules themselves (`YardlModel/TypeRules.lean`), enforced wherever the node occurs -/

open Yardl.TypeRules in
/-- a type node that breaks the union / map / array rules makes every type that contains it rejected -/
theorem type_rules_enforced_anywhere (canon : Canon) (s t : Sur) (h : Sub s t) (hbad : nodeOk canon s = false) :
    typeOk canon t = false :=
  violation_anywhere_rejects (nodeOk canon) s t h hbad

open Yardl.TypeRules in
/-- `null` anywhere but first in a union is rejected, whatever the other cases and tags are -/
theorem null_must_be_first (canon : Canon) (tag tag' : Option String) (t : Sur) (rest : SurC) :
    nodeOk canon (.union (.cons tag t (.null tag' rest))) = false := by
  simp [nodeOk, unionOk, SurC.toList]

open Yardl.TypeRules in
/-- `null` alone is not a union -/
theorem null_alone_is_rejected (canon : Canon) (tag : Option String) : nodeOk canon (.union (.null tag .nil)) = false := by
  simp [nodeOk, unionOk, SurC.toList]

open Yardl.TypeRules in
/-- an optional or a union of several cases directly inside an optional or a union of several cases is rejected -/
theorem unions_do_not_nest (canon : Canon) (inner : Sur) (hi : unionLike inner = true) (tag tag' : Option String) (u : Sur) (rest : SurC) :
    nodeOk canon (.opt inner) = false ∧
    nodeOk canon (.union (.cons tag inner (.cons tag' u rest))) = false ∧
    nodeOk canon (.union (.cons tag u (.cons tag' inner rest))) = false := by
  refine ⟨?_, ?_, ?_⟩ <;> simp [nodeOk, unionOk, SurC.toList, hi]

open Yardl.TypeRules in
/-- a map key that is a vector, an array, a map, an optional or a union of several cases is rejected -/
theorem map_key_must_be_scalar (canon : Canon) (v x y : Sur) (l : Option Nat) (d : Option (List Dim)) (tag tag' : Option String) (rest : SurC) :
    nodeOk canon (.map (.vector x l) v) = false ∧ nodeOk canon (.map (.array x d) v) = false ∧
    nodeOk canon (.map (.map x y) v) = false ∧ nodeOk canon (.map (.opt x) v) = false ∧
    nodeOk canon (.map (.union (.cons tag x (.cons tag' y rest))) v) = false := by
  refine ⟨?_, ?_, ?_, ?_, ?_⟩ <;> simp [nodeOk, keyOk, under]

open Yardl.TypeRules in
/-- lengths on some dimensions only, or a repeated dimension name, are rejected -/
theorem array_dimension_rules (canon : Canon) (t : Sur) (n : String) (k : Nat) (ds : List Dim) :
    nodeOk canon (.array t (some (⟨some n, some k⟩ :: ⟨some (n ++ "x"), none⟩ :: ds))) = false ∧
    nodeOk canon (.array t (some (⟨some n, none⟩ :: ⟨some n, none⟩ :: ds))) = false := by
  constructor <;> simp [nodeOk, dimsOk, distinctStr]

open Yardl.TypeRules in
/-- what an accepted enum / flags definition guarantees (`validateEnums`): camelCase distinct symbols, distinct values, an
    integer base type, and every value inside the base type's range -/
theorem accepted_enum_is_well_formed (base : Option Prim) (values : List (String × Int)) (h : enumOk base values = true) :
    (∀ v ∈ values, memberName v.1 = true) ∧ distinctStr (values.map (·.1)) = true ∧ distinctInt (values.map (·.2)) = true ∧
    ∃ lo hi, (base.getD .int32).range = some (lo, hi) ∧ ∀ v ∈ values, lo ≤ v.2 ∧ v.2 ≤ hi := by
  unfold enumOk at h
  simp only [Bool.and_eq_true, List.all_eq_true] at h
  obtain ⟨⟨⟨h1, h2⟩, h3⟩, h4⟩ := h
  refine ⟨h1, h2, h3, ?_⟩
  -- every branch of the match on the base type is either this test of the range or `false`
  have h5 : (match (base.getD .int32).range with
      | some (lo, hi) => values.all fun v => lo ≤ v.2 && v.2 ≤ hi
      | none => false) = true := by
    split at h4 <;> first | exact h4 | cases h4
  split at h5
  · rename_i lo hi hr
    exact ⟨lo, hi, hr, by simpa using h5⟩
  · cases h5

/-- non-vacuity: a well-formed nested type is accepted by the model -/
example : TypeRules.typeOk (fun _ => some "p")
    (.map (.named "k" .nil) (.vector (.opt (.array (.named "v" .nil) (some [⟨none, some 2⟩, ⟨none, some 3⟩]))) none)) = true := by
  decide

def notChildren (s f : String) : Bool :=
  f.startsWith "Resolved" || (s == "Namespace" && f == "References") ||
  (s == "DefinitionMeta" && (f == "TypeArguments" || f == "TypeParameters"))

theorem visitor_reaches_every_child :
    ∀ r ∈ visitorFields, r.2.2 = true ∨ notChildren r.1 r.2.1 = true := by
  decide +kernel

/-- the node kinds the rules are stated on are all walked -/
theorem visitor_covers_type_nodes :
    ("SimpleType", "TypeArguments", true) ∈ visitorFields ∧ ("GeneralizedType", "Dimensionality", true) ∈ visitorFields ∧
    ("TypeCase", "Type", true) ∈ visitorFields ∧ ("Map", "KeyType", true) ∈ visitorFields ∧
    ("Field", "Type", true) ∈ visitorFields ∧ ("ProtocolStep", "Type", true) ∈ visitorFields ∧
    ("NamedType", "Type", true) ∈ visitorFields ∧ ("SubscriptExpression", "Arguments", true) ∈ visitorFields := by
  decide +kernel

theorem all_rule_passes_in_pipeline :
    ∀ p ∈ ["validateTypeDefinitionNames", "validateGenericTypeDefinitions", "validateRecordFieldNames", "validateProtocolSequenceNames",
           "validateArrayAndVectorDimensions", "validateMaps", "validateStreams", "resolveTypes", "topologicalSortTypes",
           "validateUnionCases", "validateEnums", "resolveComputedFields", "validateGenericParametersUsed"],
      p ∈ validationPasses := by
  decide +kernel

theorem import_and_version_errors_returned :
    (∀ r ∈ calls_validatePackage, r.2.1 = "returned") ∧ (∀ r ∈ calls_parsePackageNamespaces, r.2.1 = "returned") ∧
    ("parsePackageNamespaces" ∈ calls_parsePackageNamespaces.map (·.1)) :=
  ⟨C11.nested_errors_propagate.1, C11.nested_errors_propagate.2.2.1, C11.nested_errors_propagate.2.2.2.2⟩

/-- a reference cycle through a written definition is rejected however it is closed — `deps` lists every
    same-namespace definition mentioned anywhere in a definition's body, including inside the type
    arguments of local or imported generics (`Topo.sort` = topologicalSortTypes) -/
theorem reference_cycle_is_rejected (deps : Topo.Deps) (fuel : Nat) (written : List Nat) (n : Nat) (hn : n ∈ written)
    (hc : Topo.Path deps n n) : Topo.sort deps fuel written = none :=
  Topo.cycle_is_rejected deps fuel written n hn hc

end Yardl.C09
