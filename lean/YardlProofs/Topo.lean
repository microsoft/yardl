import YardlModel.Topo
import YardlProofs.Closure

/-! The dependency sort emits a definition after everything it mentions (`sort_sorted`), so positions
    in the result decrease along references and a reference cycle cannot be accepted. -/

namespace Yardl.Topo

theorem sorted_snoc (deps : Deps) (l : List Nat) (n : Nat) (hs : Sorted deps l) (hd : ∀ m ∈ deps n, m ∈ l) :
    Sorted deps (l ++ [n]) := by
  intro i hi m hm
  rw [List.length_append, List.length_singleton] at hi
  rcases Nat.lt_succ_iff_lt_or_eq.mp hi with h | rfl
  · rw [List.getElem_append_left h] at hm
    rw [List.take_append_of_le_length (Nat.le_of_lt h)]
    exact hs i h m hm
  · rw [List.getElem_concat_length rfl] at hm
    rw [List.take_left']
    · exact hd m hm
    · rfl

/-- `foldT` of this file's model and `foldV` of the schema closure are the same fold. -/
theorem foldT_eq_foldV (f : Nat → List Nat → Option (List Nat)) :
    ∀ ns done, foldT f ns done = Closure.foldV f ns done
  | [], _ => rfl
  | n :: ns, done => by
    cases h : f n done <;> simp only [foldT, Closure.foldV, h, foldT_eq_foldV f ns]

def Spec (deps : Deps) (ns done done' : List Nat) : Prop :=
  (∀ x ∈ done, x ∈ done') ∧ (∀ n ∈ ns, n ∈ done') ∧ (Sorted deps done → Sorted deps done')

theorem Spec.nil (deps : Deps) (done : List Nat) : Spec deps [] done done :=
  ⟨fun _ h => h, nofun, id⟩

theorem Spec.cons {deps : Deps} {n : Nat} {ns done d1 done' : List Nat} :
    Spec deps [n] done d1 → Spec deps ns d1 done' → Spec deps (n :: ns) done done' := by
  intro ⟨s1, m1, k1⟩ ⟨s2, m2, k2⟩
  refine ⟨fun x hx => s2 x (s1 x hx), ?_, k2 ∘ k1⟩
  intro x hx
  rcases List.mem_cons.mp hx with rfl | hx
  · exact s2 _ (m1 _ (List.mem_singleton_self _))
  · exact m2 x hx

theorem visit_spec (deps : Deps) : ∀ (d : Nat) (path : List Nat) (n : Nat) (done done' : List Nat),
    visit deps d path n done = some done' → Spec deps [n] done done'
  | 0, _, _, _, _, h => nomatch h
  | d + 1, path, n, done, done', h => by
    simp only [visit] at h
    split at h
    · next hn =>
      cases h
      exact ⟨fun _ h => h, fun _ hm => List.mem_singleton.mp hm ▸ hn, id⟩
    · split at h
      · cases h
      · split at h <;> cases h
        next d1 hf =>
        rw [foldT_eq_foldV] at hf
        obtain ⟨hs, hm, hk⟩ :=
          Closure.foldV_induct (Spec.nil deps) Spec.cons (visit_spec deps d (n :: path)) (deps n) done d1 hf
        exact ⟨fun x hx => List.mem_append_left _ (hs x hx),
          fun _ hx => List.mem_append_right _ hx,
          fun hd => sorted_snoc deps d1 n (hk hd) hm⟩

/-- an accepted namespace is emitted in dependency order, and every written definition is emitted -/
theorem sort_sorted (deps : Deps) (fuel : Nat) (roots l : List Nat) (h : sort deps fuel roots = some l) :
    Sorted deps l ∧ ∀ r ∈ roots, r ∈ l := by
  obtain ⟨_, hm, hk⟩ := Closure.foldV_induct (Spec.nil deps) Spec.cons (visit_spec deps fuel [])
    roots [] l (foldT_eq_foldV _ _ _ ▸ h)
  exact ⟨hk nofun, hm⟩

theorem idxOf_lt_of_mem_take {l : List Nat} {m k : Nat} (h : m ∈ l.take k) : l.idxOf m < k := by
  have h1 := List.idxOf_lt_length_iff.mpr h
  have h2 : (l.take k ++ l.drop k).idxOf m = (l.take k).idxOf m := by rw [List.idxOf_append, if_pos h]
  rw [List.take_append_drop] at h2
  rw [List.length_take] at h1
  omega

/-- in a sorted list a definition's references occur strictly earlier (by first occurrence) -/
theorem sorted_dep_lt (deps : Deps) (l : List Nat) (hs : Sorted deps l) (n m : Nat) (hn : n ∈ l) (hm : m ∈ deps n) :
    m ∈ l ∧ l.idxOf m < l.idxOf n := by
  have hi : l.idxOf n < l.length := List.idxOf_lt_length_iff.mpr hn
  have := hs (l.idxOf n) hi m (by rw [List.getElem_idxOf hi]; exact hm)
  exact ⟨List.mem_of_mem_take this, idxOf_lt_of_mem_take this⟩

theorem path_lt (deps : Deps) (l : List Nat) (hs : Sorted deps l) : ∀ n m, Path deps n m → n ∈ l → m ∈ l ∧ l.idxOf m < l.idxOf n := by
  intro n m hp
  induction hp with
  | one n m hm => exact fun hn => sorted_dep_lt deps l hs n m hn hm
  | step n m k hm _ ih =>
    intro hn
    obtain ⟨h1, h2⟩ := sorted_dep_lt deps l hs n m hn hm
    obtain ⟨h3, h4⟩ := ih h1
    exact ⟨h3, by omega⟩

/-- a reference cycle through a written definition — however the cycle is closed: containers, aliases,
    arguments of local or imported generics — is never accepted -/
theorem cycle_is_rejected (deps : Deps) (fuel : Nat) (roots : List Nat) (n : Nat) (hn : n ∈ roots) (hc : Path deps n n) :
    sort deps fuel roots = none := by
  cases h : sort deps fuel roots with
  | none => rfl
  | some l =>
    -- in the sorted result `n` would stand strictly before itself
    obtain ⟨hs, hr⟩ := sort_sorted deps fuel roots l h
    exact absurd (path_lt deps l hs n n hc (hr n hn)).2 (Nat.lt_irrefl _)

end Yardl.Topo
