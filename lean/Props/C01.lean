import YardlProofs.WireStream
import YardlProofs.StreamCompose

/-!
# C01 — Binary write/read round trip and wire-format conformance

`enc`/`dec` are the published compact binary format *as implemented* (`YardlModel/Wire.lean`);
the generated C++/Python writers and readers are tied to them by the correspondence run of
`checks/c01.py`, which feeds Lean-encoded reference streams through freshly generated code
and decodes what the generated writers emit with `dec`.
-/

namespace Yardl.C01

/-- Every well-typed value of every wire type decodes from its encoding to exactly itself,
    whatever follows it in the stream (so encodings are self-delimiting). Unbounded in the type,
    the value, container sizes and the trailing bytes. -/
theorem value_round_trip (t : Ty) (v : Val) (rest : Bytes) (h : HasType t v = true) :
    dec t (enc t v ++ rest) = some (v, rest) :=
  dec_enc t v rest h

/-- A stream step decodes to exactly the items written for *every* block partition the writer
    may choose (one at a time, batches, empty stream, arbitrarily long). -/
theorem stream_round_trip (t : Ty) (part : List Nat) (items : List Val) (fuel : Nat) (rest : Bytes)
    (hp : partSum part = items.length) (hf : part.length < fuel)
    (ht : allList (HasType t) items = true) :
    decBlocks t fuel (encBlocks t part items ++ rest) = some (items, rest) :=
  decBlocks_encBlocks t part items fuel rest hp hf ht

/-- Whole protocol: header, then every step in order; decoding returns the schema and exactly
    the step values written. -/
theorem protocol_round_trip (p : Proto) (schema : Bytes) (parts : List (List Nat))
    (vals : List StepVal) (fuel : Nat) (rest : Bytes)
    (ht : hasStepVals p vals = true) (hp : partsOk p parts vals fuel) :
    ∃ body, decHeader (encHeader schema ++ encSteps p parts vals ++ rest) = some (schema, body) ∧
      decSteps p fuel body = some (vals, rest) := by
  refine ⟨encSteps p parts vals ++ rest, ?_, decSteps_encSteps p parts vals fuel rest ht hp⟩
  rw [List.append_assoc]
  exact decHeader_encHeader schema _

/-! Non-vacuity: a concrete protocol with a record, an optional, a union, a vector, a map and a
    stream meets the hypotheses. -/
def exTy : Ty :=
  .record (.cons "a" (.prim .int32) (.cons "b" (.optional (.prim .string))
    (.cons "c" (.union true (.cons "x" (.prim .uint8) (.cons "y" (.vector (.prim .int16) none) .nil)))
    (.cons "d" (.map (.prim .string) (.prim .int64)) .nil))))

def exVal : Val :=
  .record [.int (-300), .some (.str [0x68, 0x69]), .case 1 (.list [.int 1, .int (-1)]),
    .map [(.str [0x6b], .int 9223372036854775807)]]

example : HasType exTy exVal = true := by decide

example : hasStepVals [⟨"s", exTy, true⟩] [.stream [exVal, exVal]] = true := by decide

example : partsOk [⟨"s", exTy, true⟩] [[1, 1]] [.stream [exVal, exVal]] 3 := by
  simp [partsOk, partSum]

/-- Varint and zig-zag are inverse on all naturals / integers (not only 64-bit ones). -/
theorem varint_round_trip (n : Nat) (rest : Bytes) : decVar (encVar n ++ rest) = some (n, rest) :=
  decVar_encVar n rest

theorem zigzag_round_trip (i : Int) : unzigzag (zigzag i) = i := unzigzag_zigzag i

/-! ### Buffered streams: values that straddle the staging buffer

The C++ `CodedOutputStream` model emits exactly the concatenation of the per-operation bytes for
*every* buffer capacity ≥ 10, every initial fill level and *every* operation sequence (so for the
sequence any serializer issues, for any value), and no unchecked write leaves the buffer. -/
theorem cpp_writer_refines (s : COS) (ops : List WOp) (hc : 10 ≤ s.cap) (hinv : s.Inv)
    (hok : ∀ op ∈ ops, op.ok s.cap) :
    (Cpp.run s ops).abs = s.abs ++ (ops.map WOp.spec).flatten ∧ (Cpp.run s ops).Inv :=
  Cpp.run_spec ops s hc hinv hok

/-- Same for the Python `CodedOutputStream` model (`ensure_capacity`/`write_byte_no_check`,
    `write_unsigned_varint`, `write`, `write_bytes`). `WOp.ok` excludes `byteNoCheck`, the
    unchecked byte write the Python runtime issued before the `fix:` commit 00e76b6. -/
theorem py_writer_refines (s : COS) (ops : List WOp) (hc : 10 ≤ s.cap) (hinv : s.Inv)
    (hok : ∀ op ∈ ops, op.ok s.cap) :
    (Py.run s ops).abs = s.abs ++ (ops.map WOp.spec).flatten ∧ (Py.run s ops).Inv :=
  Py.run_spec ops s hc hinv hok

/-! Non-vacuity: a nearly full 10-byte buffer, a varint that must straddle. -/
example : (⟨10, [1, 2, 3, 4, 5, 6, 7, 8], [], false⟩ : COS).Inv := by simp [COS.Inv]
example : (WOp.var64 300).ok 10 := by simp [WOp.ok]

/-- The C++ `CodedInputStream` model returns what the format says, wherever the refill
    boundaries fall: capacity ≥ 10, any split of the pending bytes between buffer window and
    underlying stream. One theorem per primitive read. -/
theorem cpp_reader_refines_var64 (s : CIS) (hc : 10 ≤ s.cap) (hinv : s.Inv) (n : Nat) (rest : Bytes)
    (hn : n < 2 ^ 64) (hp : s.pending = encVar n ++ rest) :
    ∃ s', s.readVar64 = .ok n s' ∧ s'.pending = rest ∧ s'.Inv ∧ s'.cap = s.cap :=
  CIS.readVar_ok s 10 (by omega) (by omega) hinv n rest (encVar_length_le10 n hn) hp

theorem cpp_reader_refines_var32 (s : CIS) (hc : 10 ≤ s.cap) (hinv : s.Inv) (n : Nat) (rest : Bytes)
    (hn : n < 2 ^ 32) (hp : s.pending = encVar n ++ rest) :
    ∃ s', s.readVar32 = .ok n s' ∧ s'.pending = rest ∧ s'.Inv ∧ s'.cap = s.cap :=
  CIS.readVar_ok s 5 (by omega) (by omega) hinv n rest (encVar_length_le5 n hn) hp

theorem cpp_reader_refines_byte (s : CIS) (hc : 0 < s.cap) (hinv : s.Inv) (b : UInt8) (rest : Bytes)
    (hp : s.pending = b :: rest) :
    ∃ s', s.readByte = .ok b s' ∧ s'.pending = rest ∧ s'.Inv ∧ s'.cap = s.cap :=
  CIS.readByte_ok s hc hinv b rest hp

theorem cpp_reader_refines_bytes (s : CIS) (hc : 0 < s.cap) (hinv : s.Inv) (bs rest : Bytes)
    (hp : s.pending = bs ++ rest) :
    ∃ s', s.readBytes bs.length = .ok bs s' ∧ s'.pending = rest ∧ s'.Inv ∧ s'.cap = s.cap :=
  CIS.readBytes_ok s hc hinv bs rest hp

/-! Non-vacuity: 300 as a varint that straddles the refill, a byte behind it. -/
example : (⟨10, [0xac], false, [0x02, 0x07]⟩ : CIS).Inv ∧
    (⟨10, [0xac], false, [0x02, 0x07]⟩ : CIS).pending = encVar 300 ++ [0x07] := by
  refine ⟨by simp [CIS.Inv], ?_⟩
  simp [CIS.pending, encVar]

/-- **The C++ input stream, over whole read sequences**: the reads matching what was written return exactly the
    written items, in order, for every capacity ≥ 10 and every split of the data between window and underlying stream,
    and leave what follows unread. -/
theorem cpp_reader_refines_sequence (items : List CItem) (s : CIS) (hc : 10 ≤ s.cap) (hinv : s.Inv)
    (hi : ∀ i ∈ items, i.ok) (rest : Bytes) (hp : s.pending = encCItems items ++ rest) :
    ∃ s', s.readItems items = .ok (items.map CItem.val) s' ∧ s'.pending = rest ∧ s'.Inv ∧ s'.cap = s.cap :=
  CIS.readItems_ok items s (by omega) hinv hi rest hp

/-- … ended by `VerifyFinished`: `Close` then accepts exactly when nothing follows. -/
theorem cpp_reader_sequence_then_finished (items : List CItem) (s : CIS) (hc : 10 ≤ s.cap) (hinv : s.Inv)
    (hi : ∀ i ∈ items, i.ok) (rest : Bytes) (hp : s.pending = encCItems items ++ rest) :
    ∃ s', s.readItems items = .ok (items.map CItem.val) s' ∧
      (rest = [] → ∃ s'', s'.verifyFinished = .ok () s'') ∧ (rest ≠ [] → s'.verifyFinished = .notFinished) := by
  obtain ⟨s', h, hp', hinv', hc'⟩ := CIS.readItems_ok items s (by omega) hinv hi rest hp
  exact ⟨s', h, fun hr => CIS.verifyFinished_ok s' (by omega) (by rw [hp', hr]),
    fun hr => CIS.verifyFinished_leftover s' (by omega) hinv' (by rw [hp']; exact hr)⟩

/-! Non-vacuity: the same state read as a sequence, nothing after it. -/
example : (⟨10, [0xac], false, [0x02, 0x07]⟩ : CIS).pending = encCItems [.var64 300, .byte 7] ++ [] ∧
    (∀ i ∈ [CItem.var64 300, CItem.byte 7], i.ok) := by
  refine ⟨by simp [CIS.pending, encCItems, CItem.enc, encVar], ?_⟩
  intro i hi
  simp at hi
  rcases hi with h | h <;> subst h <;> simp [CItem.ok]

/-- **Writer and reader streams composed, 2 × 2**: what either buffered output stream (C++ / Python model) emits for a
    sequence of items, from an empty stream, is read back by either buffered input stream (C++ / Python model) as exactly
    those items — four independent capacities, any refill boundaries, any sequence, anything may follow. -/
theorem written_by_either_stream_read_by_either (items : List CItem) (hi : ∀ i ∈ items, i.ok)
    (w : COS) (hw : 10 ≤ w.cap) (hwinv : w.Inv) (hwe : w.abs = []) (out : Bytes)
    (hout : out = (Cpp.run w (items.map CItem.toW)).abs ∨ out = (Py.run w (items.map CItem.toW)).abs)
    (rest : Bytes) :
    (∀ r : CIS, 10 ≤ r.cap → r.Inv → r.pending = out ++ rest →
      ∃ r', r.readItems items = .ok (items.map CItem.val) r' ∧ r'.pending = rest) ∧
    (∀ r : PIS, 0 < r.cap → r.Inv → r.pending = out ++ rest →
      ∃ r', r.readItems (items.map CItem.toR) = .ok ((items.map CItem.val).map CItem.rval) r' ∧ r'.pending = rest) :=
  have h := Yardl.written_by_either_read_by_either items hi w hw hwinv hwe out hout rest
  ⟨fun r hr => h.1 r (by omega), h.2⟩

example : (⟨10, [], [], false⟩ : COS).Inv ∧ (⟨10, [], [], false⟩ : COS).abs = [] := by simp [COS.Inv, COS.abs]

/-- Python writer stream to Python reader stream with **fixed-size numbers** (`struct` writes / reads) included. -/
theorem python_stream_round_trip (items : List RItem) (w : COS) (hw : 10 ≤ w.cap) (hwinv : w.Inv) (hwe : w.abs = [])
    (hi : ∀ i ∈ items, i.wok w.cap) (r : PIS) (hr : 0 < r.cap) (hrinv : r.Inv) (hf : ∀ i ∈ items, i.fits r.cap)
    (rest : Bytes) (hp : r.pending = (Py.run w (items.map RItem.toW)).abs ++ rest) :
    ∃ r', r.readItems items = .ok (items.map RItem.val) r' ∧ r'.pending = rest :=
  Yardl.python_stream_round_trip items w hw hwinv hwe hi r hr hrinv hf rest hp

/-- **The Python input stream, over whole read sequences.** A generated Python reader is a sequence of primitive
    reads of `CodedInputStream`; a reader that issues the reads matching what was written gets exactly the written
    items, in order, and leaves what follows unread — for every buffer size (fixed-size reads must fit it), every
    split of the data between buffer and underlying stream, every sequence of bytes, fixed-size numbers, varints
    and byte runs of any length. -/
theorem py_reader_refines_sequence (items : List RItem) (s : PIS) (hc : 0 < s.cap) (hinv : s.Inv)
    (hf : ∀ i ∈ items, i.fits s.cap) (rest : Bytes) (hp : s.pending = encItems items ++ rest) :
    ∃ s', s.readItems items = .ok (items.map RItem.val) s' ∧ s'.pending = rest ∧ s'.Inv ∧ s'.cap = s.cap :=
  PIS.readItems_ok items s hc hinv hf rest hp

/-- … and a sequence cut inside a byte, fixed-size number or byte run is an error, never a value (varints: C16). -/
theorem py_reader_sequence_cut (s : PIS) (i : RItem) (hv : ∀ n, i ≠ .var n) (hp : s.pending.length < i.enc.length) :
    (match s.readItem i with | .ok _ _ => false | _ => true) = true := by
  rcases POut.isError_iff.mp (PIS.readItem_cut s i hp fun n h => absurd h (hv n)) with e | e <;> rw [e]

/-! Non-vacuity: an 8-byte buffer, 300 as a varint straddling the first refill, a 4-byte number, a run longer than
    the buffer; the model delivers them (kernel-evaluated) and the hypotheses hold. -/
def exItems : List RItem := [.byte 7, .var 300, .fixed [1, 0, 0, 0], .bytes [1, 2, 3, 4, 5, 6, 7, 8, 9, 10, 11], .var 5]
example : (PIS.init 8 (encItems exItems ++ [0xff])).Inv := PIS.init_inv _ _
example : ∀ i ∈ exItems, i.fits 8 := by
  intro i hi
  simp [exItems] at hi
  rcases hi with h | h | h | h | h <;> subst h <;> simp [RItem.fits]
example : (match (PIS.init 8 (encItems exItems ++ [0xff])).readItems exItems with
    | .ok vs s' => vs == exItems.map RItem.val && s'.pending == [0xff] | _ => false) = true := by decide +kernel

end Yardl.C01
