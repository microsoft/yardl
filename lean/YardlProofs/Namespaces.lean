import YardlModel.Namespaces
import YardlProofs.ListLemmas

/-!
  YardlProofs.Namespaces — every parsed namespace ends up with exactly the namespaces of its imports as `References`,
  in manifest order, whichever importer reached an imported package first (for every acyclic import graph).
-/

namespace Yardl.Namespaces

theorem get_append (ps : Parsed) (n m : Nat) (r : List Nat) :
    get (ps ++ [(n, r)]) m = (get ps m).or (if n = m then some r else none) := by
  induction ps with
  | nil => simp [get]
  | cons e t ih => simp only [List.cons_append, get]; split <;> simp [ih]

theorem get_addRef (ps : Parsed) (n r m : Nat) :
    get (addRef ps n r) m = if m = n then (get ps m).map (· ++ [r]) else get ps m := by
  induction ps with
  | nil => simp [addRef, get]
  | cons e t ih =>
    simp only [addRef, get]
    by_cases hm : e.1 = m
    · subst hm; by_cases hn : e.1 = n <;> simp [hn]
    · by_cases hn : e.1 = n
      · subst hn; simp [hm, Ne.symm hm, ih]
      · simp [hn, hm, ih]

theorem has_append (ps : Parsed) (n m : Nat) (r : List Nat) : has (ps ++ [(n, r)]) m = (has ps m || n == m) := by
  unfold has
  rw [get_append, Option.isSome_or]
  by_cases h : n = m <;> simp [h]

theorem has_addRef (ps : Parsed) (n r m : Nat) : has (addRef ps n r) m = has ps m := by
  unfold has
  rw [get_addRef]
  split <;> simp

/-- what one call of `parseNs` does to the table -/
structure CallSpec (G : Nat → List Nat) (ps ps' : Parsed) : Prop where
  /-- entries that existed are not touched -/
  frame : ∀ m, has ps m = true → get ps' m = get ps m
  /-- every entry added by the call holds exactly the namespaces its package imports, in order -/
  complete : ∀ m, has ps m = false → has ps' m = true → get ps' m = some (G m)

theorem parseNs_spec (G : Nat → List Nat) (rank : Nat → Nat) (hr : ∀ n, ∀ i ∈ G n, rank i < rank n) :
    ∀ (f n : Nat) (ps : Parsed), rank n < f → CallSpec G ps (parseNs G f n ps)
  | 0, _, _, h => by omega
  | f + 1, n, ps, hf => by
    unfold parseNs
    by_cases hn : has ps n = true
    · simp only [hn, if_true]
      exact ⟨fun _ _ => rfl, fun m h1 h2 => by rw [h1] at h2; exact absurd h2 (by simp)⟩
    · simp only [Bool.not_eq_true] at hn
      simp only [hn, Bool.false_eq_true, if_false]
      -- loop invariant over the imports `pre` processed so far
      obtain ⟨hold, hself, hnew⟩ := List.foldl_prefix (l := G n) (op := fun acc i => addRef (parseNs G f i acc) n i)
        (motive := fun pre acc => (∀ m, has ps m = true → get acc m = get ps m) ∧ get acc n = some pre ∧
          (∀ m, has ps m = false → m ≠ n → has acc m = true → get acc m = some (G m)))
        ⟨fun m hm => by rw [get_append, Option.or_of_isSome hm],
          by rw [get_append, Option.or_eq_right_of_none (by simpa [has] using hn), if_pos rfl],
          fun m hm hmn hin => by
            rw [has_append, hm] at hin
            simp only [Bool.false_or, beq_iff_eq] at hin
            exact absurd hin.symm hmn⟩
        (fun pre i post acc hG ⟨hold, hself, hnew⟩ => by
          have hi : i ∈ G n := by rw [hG]; simp
          have spec := parseNs_spec G rank hr f i acc (by have := hr n i hi; omega)
          have hkept : ∀ m, has ps m = true → has acc m = true := fun m hm => by unfold has at hm ⊢; rw [hold m hm]; exact hm
          -- the entry of n is untouched by the nested call, then gets the reference appended
          have hgn : get (parseNs G f i acc) n = some pre := by rw [spec.frame n (by simp [has, hself])]; exact hself
          refine ⟨fun m hm => ?_, by rw [get_addRef, if_pos rfl, hgn]; rfl, fun m hm hmn hin => ?_⟩
          · -- an entry that existed is not that of `n`
            have hmn : m ≠ n := by intro e; rw [e] at hm; rw [hn] at hm; exact absurd hm (by simp)
            rw [get_addRef, if_neg hmn, spec.frame m (hkept m hm)]
            exact hold m hm
          · rw [has_addRef] at hin
            rw [get_addRef, if_neg hmn]
            by_cases hacc : has acc m = true
            · rw [spec.frame m hacc]
              exact hnew m hm hmn hacc
            · simp only [Bool.not_eq_true] at hacc
              exact spec.complete m hacc hin)
      refine ⟨hold, fun m hm hin => ?_⟩
      by_cases hmn : m = n
      · subst hmn; exact hself
      · exact hnew m hm hmn hin

/-! ### `flattenNamespaces`: imports before importers, each namespace once -/

/-- imports first, nothing twice: the order in which the passes and generators walk `env.Namespaces` -/
def Ordered (refs : Nat → List Nat) (l : List Nat) : Prop :=
  l.Nodup ∧ ∀ (pre : List Nat) (m : Nat) (post : List Nat), l = pre ++ m :: post → ∀ i ∈ refs m, i ∈ pre

theorem Ordered.snoc {refs : Nat → List Nat} {l : List Nat} {n : Nat} (h : Ordered refs l) (hn : n ∉ l)
    (hr : ∀ i ∈ refs n, i ∈ l) : Ordered refs (l ++ [n]) := by
  refine ⟨?_, ?_⟩
  · rw [List.nodup_append]
    refine ⟨h.1, by simp, ?_⟩
    intro a ha b hb
    simp only [List.mem_singleton] at hb
    subst hb
    exact fun e => hn (e ▸ ha)
  · intro pre m post heq i hi
    -- `m` is the new last element, or lies in `l`
    rcases List.eq_nil_or_concat post with rfl | ⟨post', b, rfl⟩
    · obtain ⟨rfl, hm⟩ := List.append_inj' heq rfl
      cases hm
      exact hr i hi
    · rw [List.concat_eq_append, ← List.cons_append, ← List.append_assoc] at heq
      exact h.2 pre m post' (List.append_inj' heq rfl).1 i hi

/-- what one call of `flatten` does -/
structure FlatSpec (refs : Nat → List Nat) (seen res : List Nat) (n : Nat) : Prop where
  /-- the call only appends -/
  ext : ∃ added, res = seen ++ added
  /-- the namespace itself is listed -/
  self : n ∈ res
  /-- a list in imports-first order stays in that order -/
  ordered : Ordered refs seen → Ordered refs res

theorem flatten_spec (refs : Nat → List Nat) (rank : Nat → Nat) (hr : ∀ n, ∀ i ∈ refs n, rank i < rank n) :
    ∀ (f n : Nat) (seen : List Nat), rank n < f → FlatSpec refs seen (flatten refs f n seen) n
  | 0, _, _, h => by omega
  | f + 1, n, seen, hf => by
    unfold flatten
    by_cases hc : seen.contains n = true
    · simp only [hc, if_true]
      exact ⟨⟨[], by simp⟩, by simpa using hc, fun h => h⟩
    · simp only [hc, Bool.false_eq_true, if_false]
      -- the loop over the references: the list only grows, holds the references walked so far, and stays ordered
      obtain ⟨⟨added, e⟩, hm, ho⟩ := List.foldl_prefix (l := refs n) (op := fun acc i => flatten refs f i acc)
        (motive := fun pre acc => (∃ added, acc = seen ++ added) ∧ (∀ i ∈ pre, i ∈ acc) ∧ (Ordered refs seen → Ordered refs acc))
        ⟨⟨[], by simp⟩, by simp, id⟩
        (fun pre i post acc e ⟨⟨a, ea⟩, hm, ho⟩ => by
          have spec := flatten_spec refs rank hr f i acc (by have := hr n i (by rw [e]; simp); omega)
          obtain ⟨a1, e1⟩ := spec.ext
          refine ⟨⟨a ++ a1, by rw [e1, ea, List.append_assoc]⟩, fun x hx => ?_, fun h => spec.ordered (ho h)⟩
          rcases List.mem_append.1 hx with hx | hx
          · rw [e1]; exact List.mem_append_left _ (hm x hx)
          · rw [List.mem_singleton.1 hx]; exact spec.self)
      by_cases hc2 : (List.foldl (fun acc i => flatten refs f i acc) seen (refs n)).contains n = true
      · simp only [hc2, if_true]
        exact ⟨⟨added, e⟩, by simpa using hc2, ho⟩
      · simp only [hc2, Bool.false_eq_true, if_false]
        refine ⟨⟨added ++ [n], by rw [e]; simp⟩, by simp, fun h => ?_⟩
        exact (ho h).snoc (by simpa using hc2) hm

end Yardl.Namespaces
