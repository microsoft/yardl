import YardlModel.ProtoMatlab
import YardlProofs.Proto

/-!
  YardlProofs.ProtoMatlab — the machines denoted by the tables of the generated MATLAB base classes are the C++ writer machine and
  the MATLAB reader specification: a call sequence is accepted exactly when it visits the steps in declaration order.
-/

namespace Yardl.Proto

/-- the methods of one step of `<P>WriterBase.m` -/
def wBlk (s : Bool) (k : Nat) : List MRow :=
  if s then [⟨.write, k, k, none⟩, ⟨.endS, k, k, some (k + 1)⟩] else [⟨.write, k, k, some (k + 1)⟩]

/-- the methods of one step of `<P>ReaderBase.m` -/
def rBlk (s : Bool) (k : Nat) : List MRow :=
  if s then [⟨.has, k, k, some (k + 1)⟩, ⟨.read, k, k, none⟩] else [⟨.read, k, k, some (k + 1)⟩]

/-- a table laid out step by step: the block of methods of each step, carrying the step's ordinal, then `close` -/
structure Steps (rows : Shape → Nat → List MRow) (blk : Bool → Nat → List MRow) : Prop where
  nil : ∀ k, rows [] k = [⟨.close, 0, k, none⟩]
  cons : ∀ s rest k, rows (s :: rest) k = blk s k ++ rows rest (k + 1)
  blk_ok : ∀ s k, ∀ r ∈ blk s k, r.step = k ∧ r.kind ≠ .close

theorem wSteps : Steps wRows wBlk :=
  ⟨fun _ => rfl, fun _ _ _ => rfl, fun s k r hr => by cases s <;> simp [wBlk] at hr <;> rcases hr with rfl | rfl <;> simp⟩

theorem rSteps : Steps rRows rBlk :=
  ⟨fun _ => rfl, fun _ _ _ => rfl, fun s k r hr => by cases s <;> simp [rBlk] at hr <;> rcases hr with rfl | rfl <;> simp⟩

theorem findRow_append (a b : List MRow) (kind : MKind) (i : Nat) :
    findRow (a ++ b) kind i = (findRow a kind i).or (findRow b kind i) :=
  List.find?_append

/-- a method of step `i` is found in the block of step `i`, whatever lies before and after it -/
theorem Steps.find {rows blk} (h : Steps rows blk) {kind : MKind} (hk : kind ≠ .close) (i : Nat) : ∀ (p : Shape) (k : Nat),
    findRow (rows p k) kind i = if k ≤ i ∧ i < k + p.length then findRow (blk (isStream p (i - k)) i) kind i else none
  | [], k => by
    rw [h.nil, if_neg (by simp only [List.length_nil]; omega)]
    simp [findRow, Ne.symm hk]
  | s :: rest, k => by
    rw [h.cons, findRow_append, h.find hk i rest (k + 1)]
    unfold isStream
    by_cases hik : i = k
    · -- the block of this step; the later ones carry larger ordinals
      subst hik
      rw [if_neg (by omega), if_pos (by simp), Option.or_none, Nat.sub_self, List.getD_cons_zero]
    · -- every row of this block carries the ordinal `k`
      have hnone : findRow (blk s k) kind i = none := by
        rw [findRow, List.find?_eq_none]
        intro r hr
        simp [(h.blk_ok s k r hr).1, hk, Ne.symm hik]
      rw [hnone, Option.none_or]
      by_cases hc : k + 1 ≤ i ∧ i < k + 1 + rest.length
      · rw [if_pos hc, if_pos (by simp only [List.length_cons]; omega), show i - k = i - (k + 1) + 1 by omega, List.getD_cons_succ]
      · rw [if_neg hc, if_neg (by simp only [List.length_cons]; omega)]

theorem Steps.find_close {rows blk} (h : Steps rows blk) : ∀ (p : Shape) (k : Nat),
    findRow (rows p k) .close 0 = some ⟨.close, 0, k + p.length, none⟩
  | [], k => by rw [h.nil]; rfl
  | s :: rest, k => by
    have hnone : findRow (blk s k) .close 0 = none := by
      rw [findRow, List.find?_eq_none]
      intro r hr
      simp [(h.blk_ok s k r hr).2]
    rw [h.cons, findRow_append, hnone, Option.none_or, h.find_close rest (k + 1), List.length_cons,
      show k + 1 + rest.length = k + (rest.length + 1) by omega]

/-- the machine of the generated MATLAB writer is the machine of the generated C++ writer (`state_ == ordinal` guards, explicit `end_<step>`) -/
theorem matW_eq_cppW (p : Shape) : matW (matWriterRows p) = cppW p := by
  funext st op
  cases op with
  | write i =>
    simp only [matW, matWriterRows, wSteps.find (show MKind.write ≠ .close by decide), cppW, Nat.zero_le, true_and,
      Nat.zero_add, Nat.sub_zero]
    -- the block of step `i` is located; what is left are `if`s over `i < p.length`, `st = i`, `isStream p i` on both sides
    by_cases h : i < p.length <;> cases isStream p i <;> simp [h, wBlk, findRow]
  | endS i =>
    simp only [matW, matWriterRows, wSteps.find (show MKind.endS ≠ .close by decide), cppW, Nat.zero_le, true_and,
      Nat.zero_add, Nat.sub_zero]
    by_cases h : i < p.length <;> cases isStream p i <;> simp [h, wBlk, findRow]
  | close =>
    simp only [matW, matWriterRows, wSteps.find_close, cppW, Nat.zero_add]

theorem matR_eq_spec (p : Shape) : matR (matReaderRows p) = specRmat p := by
  funext st op
  cases op with
  | read i =>
    simp only [matR, matReaderRows, rSteps.find (show MKind.read ≠ .close by decide), specRmat, Nat.zero_le, true_and,
      Nat.zero_add, Nat.sub_zero, eq_comm (a := i) (b := st)]
    -- as for the writer, with the specification's `i = st` turned round
    by_cases h : i < p.length <;> by_cases hs : st = i <;> cases isStream p i <;> simp [h, hs, rBlk, findRow]
  | has i more =>
    simp only [matR, matReaderRows, rSteps.find (show MKind.has ≠ .close by decide), specRmat, Nat.zero_le, true_and,
      Nat.zero_add, Nat.sub_zero, eq_comm (a := i) (b := st)]
    by_cases h : i < p.length <;> by_cases hs : st = i <;> cases isStream p i <;> simp [h, hs, rBlk, findRow]
  | close =>
    simp only [matR, matReaderRows, rSteps.find_close, specRmat, Nat.zero_add]

end Yardl.Proto
