import YardlModel.Case

/-!
  Proofs about the case conversions and the identifier escaping (`YardlModel/Case.lean`); `Props/C08.lean` draws the conclusions.

  * the conversions only move underscores (`strip_delimit_map`);
  * a converted validator-accepted name never ends in `_` (`delimit_map_last`), which is what makes the `_`
    suffix of the Python / MATLAB back ends collision-free (`ident_underscore_injective`);
  * both escaping rules are `if p x then x ++ sfx else x` (`escape_injective`, `escape_not_mem`): the C++ field suffix `_field` is
    not collision-free under the plain rule (`ident_collides`) and is under the recursive rule, for every reserved table and
    suffix (`identRec_injective`), because a suffixed name that needs the suffix still needs it (`needs_append`).
-/

namespace Yardl.Case

def strip (s : List Nat) : List Nat := s.filter (· != us)

/-- names the validator accepts (`memberNameRegex` / `typeNameRegex`, length bound aside): letters and digits only -/
def alnum (s : List Nat) : Prop := ∀ c ∈ s, isAlnum c = true

theorem alnum_ne_us {c : Nat} (h : isAlnum c = true) : c ≠ us := by
  intro e; subst e; revert h; decide

theorem strip_of_alnum {s : List Nat} (h : alnum s) : strip s = s := by
  unfold strip
  rw [List.filter_eq_self]
  intro c hc
  have := alnum_ne_us (h c hc)
  simpa using this

theorem strip_us (s : List Nat) : strip (us :: s) = strip s := rfl

theorem strip_cons_congr (c : Nat) {a b : List Nat} (h : strip a = strip b) : strip (c :: a) = strip (c :: b) := by
  unfold strip at *
  rw [List.filter_cons, List.filter_cons, h]

theorem strip_pass1 (p2 p1 : Option Nat) (s : List Nat) : strip (pass1 p2 p1 s) = strip s := by
  induction s generalizing p2 p1 with
  | nil => rfl
  | cons c r ih =>
    unfold pass1
    split
    · rw [strip_us]; exact strip_cons_congr c (ih _ _)
    · exact strip_cons_congr c (ih _ _)

theorem strip_pass2 (s : List Nat) : strip (pass2 s) = strip s := by
  induction s with
  | nil => rfl
  | cons c r ih =>
    unfold pass2
    split
    · rename_i h
      obtain rfl : c = us := beq_iff_eq.1 (Bool.and_eq_true _ _ ▸ h).1
      rw [strip_us, ih]
    · exact strip_cons_congr c ih

theorem strip_delimit (s : List Nat) : strip (delimit s) = strip s := by
  unfold delimit; rw [strip_pass2, strip_pass1]

theorem toLo_us_iff (c : Nat) : toLo c = us ↔ c = us := by
  unfold toLo isUp us
  split
  · rename_i h
    have hb : 65 ≤ c ∧ c ≤ 90 := by simpa using h
    omega
  · exact Iff.rfl

theorem toUp_us_iff (c : Nat) : toUp c = us ↔ c = us := by
  unfold toUp isLo us
  split
  · rename_i h
    have hb : 97 ≤ c ∧ c ≤ 122 := by simpa using h
    omega
  · exact Iff.rfl

theorem strip_map (f : Nat → Nat) (hf : ∀ c, f c = us ↔ c = us) (s : List Nat) :
    strip (s.map f) = (strip s).map f := by
  unfold strip
  rw [List.filter_map]
  congr 2
  funext c
  rw [Bool.eq_iff_iff]
  simp [hf]

/-- both converted forms keep the letters and digits of the name, in order, in the case `f` puts them in (`toLo`, `toUp`):
    conversion only moves underscores -/
theorem strip_delimit_map {f : Nat → Nat} (hf : ∀ c, f c = us ↔ c = us) (s : List Nat) :
    strip ((delimit s).map f) = (strip s).map f := by
  rw [strip_map f hf, strip_delimit]

theorem strip_upperSnake (s : List Nat) : strip (upperSnake s) = (strip s).map toUp := strip_delimit_map toUp_us_iff s

theorem getLast?_cons_of_some {a z : Nat} {l : List Nat} (h : l.getLast? = some z) : (a :: l).getLast? = some z := by
  rw [List.getLast?_cons, h]; rfl

theorem pass1_last (p2 p1 : Option Nat) (s : List Nat) (z : Nat) (h : s.getLast? = some z) :
    (pass1 p2 p1 s).getLast? = some z := by
  induction s generalizing p2 p1 with
  | nil => cases h
  | cons c r ih =>
    have hr : (c :: pass1 p1 (some c) r).getLast? = some z := by
      cases r with
      | nil => exact h
      | cons d r' => exact getLast?_cons_of_some (ih _ _ (by rwa [List.getLast?_cons_cons] at h))
    unfold pass1
    split
    · exact getLast?_cons_of_some hr
    · exact hr

theorem pass2_last (s : List Nat) (z : Nat) (hz : z ≠ us) (h : s.getLast? = some z) : (pass2 s).getLast? = some z := by
  induction s with
  | nil => cases h
  | cons c r ih =>
    cases r with
    | nil =>
      obtain rfl : c = z := by simpa using h
      simp [pass2, hz]
    | cons d r' =>
      have ih' := ih (by rwa [List.getLast?_cons_cons] at h)
      unfold pass2
      split
      · exact ih'
      · exact getLast?_cons_of_some ih'

/-- the converted form of a non-empty validator-accepted name does not end with an underscore, whatever the letter case it is
    put in afterwards (`f` = `toLo`, `toUp`) -/
theorem delimit_map_last {f : Nat → Nat} (hf : ∀ c, f c = us ↔ c = us) {s : List Nat} (hs : alnum s) (hne : s ≠ []) :
    ((delimit s).map f).getLast? ≠ some us := by
  obtain ⟨z, hz⟩ : ∃ z, s.getLast? = some z := by
    cases h : s.getLast? with
    | none => exact absurd (List.getLast?_eq_none_iff.1 h) hne
    | some z => exact ⟨z, rfl⟩
  have hzne : z ≠ us := alnum_ne_us (hs z (List.mem_of_getLast? hz))
  rw [List.getLast?_map, delimit, pass2_last _ z hzne (pass1_last none none s z hz)]
  intro e
  exact hzne ((hf z).1 (Option.some.inj e))

theorem snake_last {s : List Nat} (hs : alnum s) (hne : s ≠ []) : (snake s).getLast? ≠ some us :=
  delimit_map_last toLo_us_iff hs hne

theorem upperSnake_last {s : List Nat} (hs : alnum s) (hne : s ≠ []) : (upperSnake s).getLast? ≠ some us :=
  delimit_map_last toUp_us_iff hs hne

/-- both escaping rules are `if p x then x ++ sfx else x` for a predicate `p` that holds of every reserved word; this lemma and the
    next are about that form -/
theorem escape_injective (p : List Nat → Bool) (sfx : List Nat) {x y : List Nat}
    (hxy : p x = false → p y = true → x ≠ y ++ sfx) (hyx : p y = false → p x = true → y ≠ x ++ sfx)
    (h : (if p x = true then x ++ sfx else x) = (if p y = true then y ++ sfx else y)) : x = y := by
  cases h1 : p x <;> cases h2 : p y <;> simp only [h1, h2, if_true, Bool.false_eq_true, if_false] at h
  · exact h
  · exact absurd h (hxy h1 h2)
  · exact absurd h.symm (hyx h2 h1)
  · exact List.append_cancel_right h

theorem escape_not_mem (R : List (List Nat)) (p : List Nat → Bool) (sfx x : List Nat)
    (hp : ∀ w ∈ R, p w = true) (hs : p x = true → (x ++ sfx) ∉ R) :
    (if p x = true then x ++ sfx else x) ∉ R := by
  cases h : p x
  · exact fun hm => absurd (hp x hm) (by simp [h])
  · simpa using hs h

theorem ident_underscore_injective (R : List (List Nat)) (x y : List Nat)
    (hx : x.getLast? ≠ some us) (hy : y.getLast? ≠ some us)
    (h : ident R [us] x = ident R [us] y) : x = y :=
  escape_injective R.contains [us] (fun _ _ e => hx (by simp [e])) (fun _ _ e => hy (by simp [e])) h

theorem ident_collides (R : List (List Nat)) (sfx w : List Nat) (hw : w ∈ R) (hn : (w ++ sfx) ∉ R) :
    ident R sfx w = ident R sfx (w ++ sfx) := by
  unfold ident
  simp [hw, hn]

theorem stripSuffix_eq_some_iff {sfx s t : List Nat} : stripSuffix sfx s = some t ↔ s = t ++ sfx := by
  unfold stripSuffix
  constructor
  · intro h
    split at h
    · rename_i hc
      cases h
      have := List.take_append_drop (s.length - sfx.length) s
      rw [hc.2] at this
      exact this.symm
    · cases h
  · rintro rfl
    simp [List.drop_left', List.take_left']

theorem needsF_mono (R : List (List Nat)) (sfx : List Nat) :
    ∀ (n m : Nat) (s : List Nat), n ≤ m → needsF R sfx n s = true → needsF R sfx m s = true
  | 0, 0, _, _, h => h
  | 0, m + 1, s, _, h => by
    rw [needsF] at h; rw [needsF, h]; rfl
  | n + 1, m + 1, s, hnm, h => by
    rw [needsF, Bool.or_eq_true] at h ⊢
    refine h.imp id fun h => ?_
    cases hst : stripSuffix sfx s with
    | none => rw [hst] at h; exact h
    | some t => rw [hst] at h; exact needsF_mono R sfx n m t (Nat.le_of_succ_le_succ hnm) h

theorem needs_append (R : List (List Nat)) (sfx t : List Nat) (hs : sfx ≠ []) (h : needs R sfx t = true) :
    needs R sfx (t ++ sfx) = true := by
  -- the fuel of `needs` is the length of the name: one unfolding strips `sfx`, and the fuel left over is at least `t.length`
  unfold needs at h ⊢
  have hpos := List.length_pos_iff.2 hs
  have hl : (t ++ sfx).length = (t.length + sfx.length - 1) + 1 := by simp; omega
  rw [hl, needsF, stripSuffix_eq_some_iff.2 rfl]
  dsimp only
  rw [needsF_mono R sfx _ _ t (by omega) h, Bool.or_true]

theorem identRec_injective (R : List (List Nat)) (sfx x y : List Nat) (hs : sfx ≠ [])
    (h : identRec R sfx x = identRec R sfx y) : x = y :=
  escape_injective (needs R sfx) sfx
    (fun h1 h2 e => by rw [e, needs_append R sfx y hs h2] at h1; cases h1)
    (fun h2 h1 e => by rw [e, needs_append R sfx x hs h1] at h2; cases h2) h

/-- the recursive rule still never yields a reserved word, provided no reserved word ends with the suffix after a reserved or
    suffixed stem (true of the table: decided over the regenerated table in `Props/C08.lean`) -/
theorem identRec_not_reserved (R : List (List Nat)) (sfx x : List Nat) :
    needs R sfx (identRec R sfx x) = false ∨ needs R sfx x = true := by
  unfold identRec
  by_cases h : needs R sfx x = true
  · exact Or.inr h
  · left; simp only [h]; simpa using h

theorem needs_of_reserved (R : List (List Nat)) (sfx x : List Nat) (h : x ∈ R) : needs R sfx x = true := by
  unfold needs
  cases x.length <;> simp [needsF, h]

theorem toUp_injective_on_lower {c d : Nat} (hc : isLo c = true) (hd : isLo d = true) (h : toUp c = toUp d) : c = d := by
  unfold toUp at h
  simp only [hc, hd, if_true] at h
  unfold isLo at hc hd
  have hb1 : 97 ≤ c ∧ c ≤ 122 := by simpa using hc
  have hb2 : 97 ≤ d ∧ d ≤ 122 := by simpa using hd
  omega

theorem pascal_of_alnum {s : List Nat} (h : alnum s) : pascal s = cap s := by
  have : s.contains us = false := by
    rw [List.contains_eq_mem, decide_eq_false_iff_not]
    exact fun hm => alnum_ne_us (h _ hm) rfl
  unfold pascal; rw [this]; simp

theorem alnum_of_memberName {n : List Nat} (h : memberName n = true) : alnum n ∧ n ≠ [] := by
  cases n with
  | nil => simp [memberName] at h
  | cons c r =>
    simp only [memberName, Bool.and_eq_true, List.all_eq_true, decide_eq_true_eq] at h
    refine ⟨?_, by simp⟩
    intro x hx
    rcases List.mem_cons.1 hx with h1 | h1
    · subst h1; simp [isAlnum, h.1.1]
    · exact h.1.2 x h1

theorem membersOk_spec : ∀ (names seenNames seenSnake : List (List Nat)), membersOk names seenNames seenSnake = true →
    (∀ n ∈ names, memberName n = true ∧ snake n ∉ seenSnake) ∧ names.Pairwise (fun a b => snake a ≠ snake b)
  | [], _, _, _ => ⟨nofun, .nil⟩
  | n :: rest, sn, ss, h => by
    simp only [membersOk, Bool.and_eq_true, Bool.not_eq_true', List.contains_eq_mem, decide_eq_false_iff_not] at h
    obtain ⟨⟨⟨h1, _⟩, h3⟩, h4⟩ := h
    obtain ⟨i1, i2⟩ := membersOk_spec rest _ _ h4
    exact ⟨List.forall_mem_cons.2 ⟨⟨h1, h3⟩, fun m hm => ⟨(i1 m hm).1, fun hc => (i1 m hm).2 (List.mem_cons_of_mem _ hc)⟩⟩,
      List.pairwise_cons.2 ⟨fun m hm e => (i1 m hm).2 (e ▸ List.mem_cons_self), i2⟩⟩

/-- non-vacuity: an ordinary record is accepted; the pair the validator exists to reject is rejected -/
example : membersOk [str "class", str "classField", str "fooBar", str "x1"] [] [] = true ∧
    membersOk [str "fooBar", str "fooBAR"] [] [] = false ∧ membersOk [str "a", str "a"] [] [] = false ∧ membersOk [str "Abc"] [] [] = false := by decide

end Yardl.Case
