import YardlProofs.PyStreamR

/-!
  A generated Python reader is a sequence of primitive reads of `CodedInputStream` (`read_byte`,
  `read(struct)`, `read_unsigned_varint`, `read_view` / `read_bytearray`). `PyStreamR` proves each
  primitive; here they are chained: a reader that issues the reads matching what a writer wrote gets
  exactly the written items, in order, for every buffer size, every split of the data between the
  buffer and the underlying stream, and every sequence — and what follows the sequence is left unread
  (the model of the Python stream has no counterpart of `VerifyFinished`).

  `CppStreamSeq` is the twin of this file. The proofs of `readItem_ok` / `readItem_cut` go another way there: the C++
  `readItem` is written with `CIS.lift`, about which one lemma (`Refines.lift`) serves all cases; `PIS.readItem` spells
  a `match` out per case, so each case rewrites with the primitive's result.
-/

namespace Yardl

/-- one written item, as the reader will ask for it -/
inductive RItem
  | byte (b : UInt8)
  | fixed (bs : Bytes)      -- `read(struct)`: `bs.length` little-endian bytes
  | var (n : Nat)
  | bytes (bs : Bytes)      -- `read_view(n)` / `read_bytearray(n)`
  deriving Repr

/-- what a reader gets back -/
inductive RVal
  | byte (b : UInt8)
  | num (n : Nat)
  | bytes (bs : Bytes)
  deriving Repr, DecidableEq

namespace RItem

def enc : RItem → Bytes
  | .byte b => [b]
  | .fixed bs => bs
  | .var n => encVar n
  | .bytes bs => bs

def val : RItem → RVal
  | .byte b => .byte b
  | .fixed bs => .num (CIS.leVal bs)
  | .var n => .num n
  | .bytes bs => .bytes bs

/-- the widest fixed-size read of a sequence must fit the buffer (`struct` reads go through `_fill_buffer`) -/
def fits (cap : Nat) : RItem → Prop
  | .fixed bs => bs.length ≤ cap
  | _ => True

end RItem

def encItems : List RItem → Bytes
  | [] => []
  | i :: r => i.enc ++ encItems r

namespace PIS

/-- the read a reader issues for an item (it knows kind and size from the schema, not the content) -/
def readItem (s : PIS) : RItem → POut RVal
  | .byte _ => (match s.readByte with
      | .ok b s' => .ok (.byte b) s' | .eof => .eof | .bufferError => .bufferError)
  | .fixed bs => (match s.readFixed bs.length with
      | .ok n s' => .ok (.num n) s' | .eof => .eof | .bufferError => .bufferError)
  | .var _ => (match s.readVar with
      | .ok n s' => .ok (.num n) s' | .eof => .eof | .bufferError => .bufferError)
  | .bytes bs => (match s.readBytes bs.length with
      | .ok b s' => .ok (.bytes b) s' | .eof => .eof | .bufferError => .bufferError)

def readItems (s : PIS) : List RItem → POut (List RVal)
  | [] => .ok [] s
  | i :: r => (match s.readItem i with
      | .ok v s' => (match readItems s' r with
          | .ok vs s'' => .ok (v :: vs) s'' | .eof => .eof | .bufferError => .bufferError)
      | .eof => .eof | .bufferError => .bufferError)

theorem readItem_ok (s : PIS) (hc : 0 < s.cap) (hinv : s.Inv) (i : RItem) (hf : i.fits s.cap) (rest : Bytes)
    (hp : s.pending = i.enc ++ rest) : Refines s.cap (s.readItem i) (some (i.val, rest)) := by
  cases i with
  | byte b =>
    obtain ⟨s', h, r⟩ := readByte_ok s hc hinv b rest hp
    exact ⟨s', by simp only [readItem, h, RItem.val], r⟩
  | fixed bs =>
    obtain ⟨s', h, r⟩ := readFixed_ok s bs.length hf hinv bs rest rfl hp
    exact ⟨s', by simp only [readItem, h, RItem.val], r⟩
  | var n =>
    obtain ⟨s', h, r⟩ := readVar_ok s hc hinv n rest hp
    exact ⟨s', by simp only [readItem, h, RItem.val], r⟩
  | bytes bs =>
    obtain ⟨s', h, r⟩ := readBytes_ok s hinv bs rest hp
    exact ⟨s', by simp only [readItem, h, RItem.val], r⟩

/-- an item the stream does not hold in full fails; for a varint, whose length the reader does not know beforehand, the
    caller says why. (The hypotheses have the shape of `C01.py_reader_sequence_cut`, which needs no invariant; `CIS.readItem_cut`
    takes `pending ++ more = enc` throughout.) -/
theorem readItem_cut (s : PIS) (i : RItem) (hp : s.pending.length < i.enc.length)
    (hvar : ∀ n, i = .var n → s.readVar.isError = true) : (s.readItem i).isError = true := by
  cases i with
  | byte b =>
    rcases POut.isError_iff.mp (readByte_cut s (List.eq_nil_of_length_eq_zero (Nat.lt_one_iff.mp hp))) with e | e <;>
      simp only [readItem, e] <;> rfl
  | fixed bs => rcases POut.isError_iff.mp (readFixed_cut s bs.length hp) with e | e <;> simp only [readItem, e] <;> rfl
  | var n => rcases POut.isError_iff.mp (hvar n rfl) with e | e <;> simp only [readItem, e] <;> rfl
  | bytes bs => rcases POut.isError_iff.mp (readBytes_cut s bs.length hp) with e | e <;> simp only [readItem, e] <;> rfl

theorem readItems_ok (items : List RItem) (s : PIS) (hc : 0 < s.cap) (hinv : s.Inv)
    (hf : ∀ i ∈ items, i.fits s.cap) (rest : Bytes) (hp : s.pending = encItems items ++ rest) :
    Refines s.cap (s.readItems items) (some (items.map RItem.val, rest)) := by
  induction items generalizing s with
  | nil => exact ⟨s, rfl, hp, hinv, rfl⟩
  | cons i r ih =>
    obtain ⟨s1, h1, hp1, hinv1, hc1⟩ := readItem_ok s hc hinv i (hf i (by simp)) (encItems r ++ rest)
      (by rw [hp, encItems, List.append_assoc])
    obtain ⟨s2, h2, hp2, hinv2, hc2⟩ := ih s1 (by omega) hinv1
      (fun j hj => by rw [hc1]; exact hf j (by simp [hj])) hp1
    exact ⟨s2, by simp only [readItems, h1, h2, List.map_cons], hp2, hinv2, hc2.trans hc1⟩

/-- cut between items or inside one -/
theorem readItems_cut (items : List RItem) (s : PIS) (hc : 0 < s.cap) (hinv : s.Inv)
    (hf : ∀ i ∈ items, i.fits s.cap) (more : Bytes) (hm : more ≠ [])
    (hp : s.pending ++ more = encItems items) : (s.readItems items).isError = true := by
  induction items generalizing s with
  | nil => exact absurd (List.append_eq_nil_iff.mp hp).2 hm
  | cons i r ih =>
    rcases prefix_append_cases hp with ⟨a, ha, h⟩ | ⟨c, h1, h2⟩
    · -- the stream ends strictly inside item `i`
      have := readItem_cut s i (length_lt_of_append_ne_nil h ha)
        fun n hn => readVar_cut s hc hinv n a (by rw [h, hn]; rfl) ha
      rcases POut.isError_iff.mp this with e | e <;> simp only [readItems, e] <;> rfl
    · obtain ⟨s1, e1, hp1, hinv1, hc1⟩ := readItem_ok s hc hinv i (hf i (by simp)) c h1
      have := ih s1 (by omega) hinv1 (fun j hj => by rw [hc1]; exact hf j (by simp [hj])) (by rw [hp1]; exact h2)
      rcases POut.isError_iff.mp this with e | e <;> simp only [readItems, e1, e] <;> rfl

end PIS

end Yardl
