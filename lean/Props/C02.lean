import YardlProofs.JsonRoundTrip
import YardlProofs.NdjsonReader
import YardlGenerated.Tables

/-!
# C02 — NDJSON write/read round trip and documented JSON mapping

Model: `YardlModel/Json.lean` — `toJ` / `fromJ` (docs/reference/ndjson.md as implemented by the
generated C++ and Python converters), the JSON data types of `GetJsonDataType`, the rule that decides
whether a union is written untagged (`unionSimplified`), omission of nullable record fields.

Proved here:
* `json_round_trip` — `fromJ F t (toJ F t v) = some v` for **every** well-formed type and typed value
  (mutual structural induction over types, any nesting depth): primitives, enums and flags (the array of names found by the greedy
  bit-clearing decomposition, or the number itself when the value is not a combination of declared flags), records (a nullable
  field holding null is omitted and read back as null; fields are found by name), optionals, tagged
  and untagged unions, vectors, arrays of all kinds, maps with string and non-string keys.
  Hypotheses: `WF t` — distinct field names / union tags / enum symbol names, the inner type of an
  optional is not itself nullable, union cases are neither optional nor unions (what the validator
  enforces; `WF` asks nothing about the JSON data types of the cases: whether a union is written tagged or
  untagged is decided by `unionSimplified`, and both forms are covered) — and `F.Ok`: the date/time formatter and parser of the runtime are
  inverse (they are CPython's / the C++ date library's, exercised by the correspondence).
* `untagged_case_is_recovered` — in an untagged union the reader picks exactly the written case: the
  JSON data types of the cases are pairwise disjoint and every value's JSON type is among its type's.
* `json_type_is_announced` — the JSON data type of every mapped value is among those
  `GetJsonDataType` announces for its type, for every type that can be a union case (`prim_kinds_sound` for primitives).
* `flags_value_outside_declared_bits_is_a_number` — the witness that a flags value is also written as a number, which is
  why flags announce *number* besides *array* (the defect the flags case of the round trip exposed).
* `prim_kinds_match_source`, `compound_kinds_match_source` — the model's JSON data types of primitives and of
  enums, flags, records, vectors, arrays and maps equal the ones computed by the current source (regenerated
  by executing it); `compound_kinds_table_complete` — the regenerated table of the latter has its 13 rows, one per step
  of the fixed package, so that no shape has dropped out of the comparison.
* `ndjson_lines_are_read_back`, `ndjson_required_step_missing_is_error` — the line-oriented step reader with its
  one-line look-ahead (`YardlModel/NdjsonReader.lean`) returns exactly the written values for every protocol and
  every sequence of values, empty streams anywhere included; a missing non-stream step is an error.
* `nested_optional_collapses` — why the hypothesis on optionals is needed: `some(none)` and `none` of
  an optional of an optional are the same JSON document (the open finding of C03 for Python).
-/

namespace Yardl.C02
open Yardl Yardl.Json

theorem json_round_trip (F : Fmt) (hF : F.Ok) (t : Ty) (v : Val) (hw : WF t = true) (ht : HasType t v = true) :
    fromJ F t (toJ F t v) = some v :=
  fromJ_toJ F hF t v hw ht

theorem untagged_case_is_recovered (F : Fmt) (hF : F.Ok) (cs : Fields) (i : Nat) (x : Val)
    (hw : WFF cs = true) (hc : casesOk cs = true) (h : HasCase cs i x = true)
    (hd : DisjBefore cs i (kindOf (caseToJ F cs i x)) = true) :
    caseByKind F cs 0 (caseToJ F cs i x) = some (.case i x) := by
  simpa using caseByKind_spec F hF cs 0 i x hw hc h hd

theorem json_type_is_announced (F : Fmt) (t : Ty) (v : Val) (hw : WF t = true) (ht : HasType t v = true) (hk : kinds t ≠ 0) :
    kindOf (toJ F t v) &&& kinds t = kindOf (toJ F t v) :=
  kinds_sub F t v ht hk

/-- JSON data type of every primitive's mapping is among the types `GetJsonDataType` announces
    (this is what the tagged/untagged union decision relies on). Before the fix, date/time/datetime
    were announced as Number but written as strings. -/
theorem prim_kinds_sound (F : Fmt) (p : Prim) (v : Val) (h : primHasType p v = true) :
    kindOf (primToJ F p v) &&& Prim.kinds p ≠ 0 := by
  rw [prim_kinds_sub F p v h]
  exact kindOf_ne_zero _

/-- The JSON data types the model assumes for primitives are the ones `GetJsonDataType` returns in
    the current source (table regenerated by executing it on every primitive). -/
theorem prim_kinds_match_source :
    ∀ r ∈ Yardl.Generated.primInfoTab, Prim.kinds r.1 = r.2.2.2.2.2 := by decide

/-- one type of each non-primitive shape; the names are the step names of the fixed package `gen_tables.py` feeds to
    `GetJsonDataType` -/
def sampleTy : String → Option Ty
  | "enum" | "aliasOfEnum" => some (.enum .int32 false [("a", 0)])
  | "flags" => some (.enum .int32 true [("a", 1)])
  | "record" | "genericRecord" => some (.record (.cons "a" (.prim .int32) .nil))
  | "vector" | "aliasOfVector" => some (.vector (.prim .int32) none)
  | "fixedVector" => some (.vector (.prim .int32) (some 3))
  | "arrayDynamic" => some (.array (.prim .int32) .dynamic)
  | "arrayRank" => some (.array (.prim .int32) (.rank 2))
  | "arrayFixed" => some (.array (.prim .int32) (.fixed [2, 3]))
  | "mapStringKey" => some (.map (.prim .string) (.prim .int32))
  | "mapIntKey" => some (.map (.prim .int32) (.prim .int32))
  | _ => none

/-- the JSON data types the model assumes for enums, flags, records, vectors, arrays and maps are the ones
    `GetJsonDataType` returns in the current source (regenerated by executing it on a package with one step per shape) -/
theorem compound_kinds_match_source :
    ∀ r ∈ Yardl.Generated.compoundKindTab, (sampleTy r.1).map kinds = some r.2 := by decide

theorem compound_kinds_table_complete : Yardl.Generated.compoundKindTab.length = 13 := by decide

theorem nested_optional_collapses (F : Fmt) (t : Ty) :
    toJ F (.optional (.optional t)) (.some .none) = toJ F (.optional (.optional t)) .none := by
  simp [toJ]

/-- non-vacuity: a nested type using every constructor is well-formed (lists of one name are trivially distinct;
    the driver evaluates `WF` on every generated type and reports how many satisfy it) -/
example : WF (.record (.cons "a" (.optional (.union false (.cons "x" (.vector (.map (.prim .string)
    (.record (.cons "e" (.enum .uint8 false [("p", 0)]) .nil))) none) .nil))) .nil)) = true ∧
    WF (.array (.map (.prim .int8) (.prim .date)) (.fixed [2, 3])) = true := by
  simp [WF, WFF, casesOk, names, distinct, isNullable, kinds, kArr]

/-- the defect the flags case of the proof exposed (fixed in the source, see known_findings.json): a flags
    value that is not a combination of declared flags is written as a number, so `!flags` must announce the
    JSON type *number* besides *array*; with *array* alone the union `[Flags, int32]` was written untagged
    and the value `Flags(9)` came back as the `int32` case. The model's `kinds` now says array-or-number
    and `json_type_is_announced` covers flags; this is the witness that the number form occurs. -/
theorem flags_value_outside_declared_bits_is_a_number (F : Fmt) :
    toJ F (.enum .int32 true [("a", 1), ("b", 2)]) (.int 9) = .int 9 ∧
    kindOf (J.int 9) &&& kinds (.enum .int32 true [("a", 1), ("b", 2)]) = kindOf (J.int 9) := by
  constructor
  · simp [toJ, flagNames]
  · decide

/-- for every protocol with distinct step names and every sequence of step values — streams of any length, empty ones
    anywhere — the lines the writer emits are read back as exactly those values by the step reader of the generated
    NDJSON readers (`ReadProtocolValue` / `_read_json_line`, driven as the generated readers drive it), and nothing is
    left over -/
theorem ndjson_lines_are_read_back {α : Type} (steps : List (Nat × Bool)) (vals : List (Nd.StepVal α))
    (hd : Nd.namesDistinct steps = true) (hs : Nd.shaped steps vals = true) :
    ∃ s', Nd.readSteps steps { lines := Nd.writeLines steps vals, unused := none } = some (vals, s') ∧
      s'.unused = none ∧ s'.lines = [] := by
  obtain ⟨s', h1, h2⟩ := Nd.readSteps_spec steps vals { lines := Nd.writeLines steps vals, unused := none } hd hs (by simp [Nd.pend])
  exact ⟨s', h1, by simpa [Nd.pend] using h2⟩

/-- a non-stream step whose line is not the next one (another step's line, or the end of the file) is an error — the
    reader never hands out another step's value -/
theorem ndjson_required_step_missing_is_error {α : Type} (s : Nd.St α) (name : Nat) :
    (Nd.pend s = [] → Nd.readValue s name true = .error) ∧
    (∀ k v rest, Nd.pend s = (k, v) :: rest → k ≠ name → Nd.readValue s name true = .error) :=
  ⟨Nd.readValue_nil s name true, Nd.readValue_miss_required s name⟩

/-- non-vacuity: a scalar, an empty stream, a stream of two, an empty stream, a scalar -/
example : Nd.namesDistinct [(1, false), (2, true), (3, true), (4, true), (5, false)] = true ∧
    Nd.shaped [(1, false), (2, true), (3, true), (4, true), (5, false)]
      [Nd.StepVal.single 10, .stream [], .stream [20, 21], .stream [], .single 30] = true := by decide

end Yardl.C02
