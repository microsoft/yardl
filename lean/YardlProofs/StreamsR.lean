import YardlModel.Streams
import YardlProofs.WirePrefix
import YardlProofs.ListLemmas

/-! The buffered C++ reader refines the byte-level decoders for every capacity > 0 and every way the bytes are split
    between window and underlying stream; a cut inside a primitive is reported as end-of-stream and the read does not
    leave the valid window (the unchecked fast path of the varint reads is entered only with enough bytes in the window).
    Treated: `readByte`, `readVar32`, `readVar64`, `readBytes`, `verifyFinished`; `readFixed` is modelled and not treated. -/

namespace Yardl

namespace CIS

/-- What a read comes to when decoding the pending bytes gives `d`: the decoded value, in a good state of capacity
    `cap` whose pending bytes are the rest; end-of-stream when there is nothing to decode. The `some` branch is, by
    definition, the four-way conjunction the property theorems spell out, and the `none` branch the equation `r = .eos`:
    both are built and taken apart as such (`⟨s', _, _, _, _⟩`, `exact`). -/
def Refines {α : Type} (cap : Nat) (r : ROut α) : Option (α × Bytes) → Prop
  | some (v, rest) => ∃ s', r = .ok v s' ∧ s'.pending = rest ∧ s'.Inv ∧ s'.cap = cap
  | none => r = .eos

/-- the value of an `ok` outcome mapped (what the model's `readFixed` spells out as a `match`) -/
def lift {α β : Type} (f : α → β) : ROut α → ROut β
  | .ok a s => .ok (f a) s
  | .eos => .eos
  | .bad => .bad
  | .notFinished => .notFinished

theorem Refines.lift {α β : Type} {cap : Nat} {r : ROut α} {v : α} {rest : Bytes} (f : α → β)
    (h : Refines cap r (some (v, rest))) : Refines cap (lift f r) (some (f v, rest)) := by
  obtain ⟨s', e, h⟩ := h
  exact ⟨s', by rw [e]; rfl, h⟩

theorem win_length_le_pending (s : CIS) : s.win.length ≤ s.pending.length := by simp [pending]

/-- `FillBuffer()` with an empty window and bytes pending: the refill brings in at least one byte. -/
theorem fill_some (s : CIS) (hc : 0 < s.cap) (hinv : s.Inv) (hw : s.win = []) (hp : s.pending ≠ []) :
    ∃ s1, s.fill = some s1 ∧ s1.pending = s.pending ∧ s1.win ≠ [] ∧ s1.Inv ∧ s1.cap = s.cap := by
  have hsrc : s.src ≠ [] := fun h => hp (by simp [pending, hw, h])
  have he : s.atEof = false := Bool.eq_false_iff.mpr fun h => hsrc (hinv.2 h)
  have hl := List.length_pos_iff.mpr hsrc
  refine ⟨{ s with win := s.src.take s.cap, src := s.src.drop s.cap, atEof := decide (s.src.length < s.cap) },
    by simp [fill, he], by simp [pending, hw], ?_, ⟨?_, fun h => ?_⟩, rfl⟩
  · rw [Ne, ← List.length_eq_zero_iff, List.length_take]; omega
  · simp only [List.length_take]; omega
  · simp only [decide_eq_true_eq] at h
    simp only [List.drop_eq_nil_iff]; omega

theorem ensure_ok (s : CIS) (hc : 0 < s.cap) (hinv : s.Inv) (hp : s.pending ≠ []) :
    ∃ s1, s.ensure = some s1 ∧ s1.pending = s.pending ∧ s1.win ≠ [] ∧ s1.Inv ∧ s1.cap = s.cap := by
  unfold ensure
  split
  · next hw =>
    obtain ⟨s1, he, h⟩ := fill_some s hc hinv (List.isEmpty_iff.mp hw) hp
    exact ⟨s1, by simp [fillOrThrow, he, h.2.1], h⟩
  · next hw => exact ⟨s, rfl, rfl, fun h => hw (by simp [h]), hinv, rfl⟩

theorem ensure_cut (s : CIS) (hp : s.pending = []) : s.ensure = none := by
  obtain ⟨hw, hs⟩ := List.append_eq_nil_iff.mp hp
  unfold ensure fillOrThrow fill
  cases h : s.atEof <;> simp [hw, hs]

/-- Consuming the first `k` bytes of the window, which are the first `k` pending bytes. -/
theorem take_win (s : CIS) (hinv : s.Inv) (k : Nat) (bs rest : Bytes) (hp : s.pending = bs ++ rest) (hl : bs.length = k)
    (hk : k ≤ s.win.length) :
    s.win.take k = bs ∧ ({ s with win := s.win.drop k } : CIS).pending = rest ∧
      ({ s with win := s.win.drop k } : CIS).Inv := by
  subst hl
  obtain ⟨h1, h2⟩ := take_drop_of_append hp hk
  exact ⟨h1, h2, by have := hinv.1; simp only [List.length_drop]; omega, hinv.2⟩

/-- `ensure` and the head of the window: the next pending byte, and the state once it is consumed. -/
theorem next_byte (s : CIS) (hc : 0 < s.cap) (hinv : s.Inv) (b : UInt8) (rest : Bytes) (hp : s.pending = b :: rest) :
    ∃ s1 w, s.ensure = some s1 ∧ s1.win = b :: w ∧ ({ s1 with win := w } : CIS).pending = rest ∧
      ({ s1 with win := w } : CIS).Inv ∧ s1.cap = s.cap := by
  obtain ⟨s1, he, hp1, hw1, hinv1, hc1⟩ := ensure_ok s hc hinv (by rw [hp]; simp)
  cases hw : s1.win with
  | nil => exact absurd hw hw1
  | cons b' w =>
    have h : b' :: (w ++ s1.src) = b :: rest := by simpa [pending, hw] using hp1.trans hp
    obtain ⟨rfl, h2⟩ := List.cons.inj h
    refine ⟨s1, w, he, hw, h2, ⟨?_, hinv1.2⟩, hc1⟩
    have := hinv1.1; rw [hw] at this; simp at this ⊢; omega

theorem readByte_ok (s : CIS) (hc : 0 < s.cap) (hinv : s.Inv) (b : UInt8) (rest : Bytes)
    (hp : s.pending = b :: rest) : Refines s.cap s.readByte (some (b, rest)) := by
  obtain ⟨s1, w, he, hw, h⟩ := next_byte s hc hinv b rest hp
  exact ⟨_, by simp only [readByte, he, hw], h⟩

theorem readByte_cut (s : CIS) (hp : s.pending = []) : s.readByte = .eos := by
  unfold readByte
  rw [ensure_cut s hp]

/-- The byte-at-a-time loop computes `decVar` of the pending bytes, whatever they are, in accumulator form;
    bytes that are no varint (all have the continuation bit) run into the end of the stream. -/
theorem varLoop_decVar : ∀ (fuel : Nat) (s : CIS) (shift acc : Nat), 0 < s.cap → s.Inv → s.pending.length < fuel →
    Refines s.cap (varLoop fuel s shift acc) ((decVar s.pending).map fun p => (acc + p.1 * 2 ^ shift, p.2)) := by
  intro fuel
  induction fuel with
  | zero => intro s _ _ _ _ h; omega
  | succ fuel ih =>
    intro s shift acc hc hinv hf
    unfold varLoop
    cases hp : s.pending with
    | nil => rw [ensure_cut s hp]; rfl
    | cons b rest =>
      obtain ⟨s1, w, he, hw, hp2, hinv2, hc1⟩ := next_byte s hc hinv b rest hp
      -- `← hc1` (here and below): the goal speaks of `s.cap`, the states reached have `s1.cap`; turned, the closing `rfl`s fit
      rw [← hc1, decVar_cons_acc]
      by_cases hb : b.toNat < 128
      · simp only [he, hw, hb, if_true]
        exact ⟨_, rfl, hp2, hinv2, rfl⟩
      · simp only [he, hw, hb, if_false]
        have h := ih { s1 with win := w } (shift + 7) (acc + b.toNat % 128 * 2 ^ shift) (by simpa [hc1] using hc) hinv2
          (by rw [hp2]; rw [hp] at hf; simpa using hf)
        rwa [hp2] at h

theorem varLoop_zero (s : CIS) (fuel : Nat) (hc : 0 < s.cap) (hinv : s.Inv) (hf : s.pending.length < fuel) :
    Refines s.cap (varLoop fuel s 0 0) (decVar s.pending) := by
  simpa using varLoop_decVar fuel s 0 0 hc hinv hf

theorem varFast_ok (s : CIS) (hinv : s.Inv) (n : Nat) (rest : Bytes)
    (hp : s.pending = encVar n ++ rest) (hlen : (encVar n).length ≤ s.win.length) :
    Refines s.cap s.varFast (some (n, rest)) := by
  obtain ⟨h1, h2, h3⟩ := take_win s hinv _ _ rest hp rfl hlen
  have hw := List.take_append_drop (encVar n).length s.win
  rw [h1] at hw
  unfold varFast
  rw [← hw, decVar_encVar]
  exact ⟨_, rfl, h2, h3, rfl⟩

/-- `ReadVarIntegerSlow` is the loop, entered after `ensure`, unless a refill of the empty window brought in ten bytes. -/
theorem varSlow_eq (s : CIS) : s.varSlow = match s.ensure with
    | none => .eos
    | some s1 => if s.win.isEmpty = true ∧ 10 ≤ s1.win.length then s1.varFast
        else varLoop (s1.pending.length + 1) s1 0 0 := by
  unfold varSlow ensure
  by_cases hw : s.win.isEmpty = true
  · simp only [hw, if_true, true_and]; cases s.fillOrThrow <;> rfl
  · simp only [hw, if_false, false_and, Bool.false_eq_true]

theorem varSlow_ok (s : CIS) (hc : 0 < s.cap) (hinv : s.Inv) (n : Nat) (rest : Bytes)
    (hn : (encVar n).length ≤ 10) (hp : s.pending = encVar n ++ rest) : Refines s.cap s.varSlow (some (n, rest)) := by
  obtain ⟨s1, he, hp1, _, hinv1, hc1⟩ := ensure_ok s hc hinv (by simp [hp, encVar_ne_nil])
  rw [varSlow_eq, he, ← hc1]
  dsimp only
  split
  · exact varFast_ok s1 hinv1 n rest (hp1.trans hp) (by omega)
  · have := varLoop_zero s1 (s1.pending.length + 1) (by omega) hinv1 (by omega)
    rwa [show decVar s1.pending = some (n, rest) by rw [hp1, hp, decVar_encVar]] at this

theorem varSlow_cut (s : CIS) (hc : 0 < s.cap) (hinv : s.Inv) (n : Nat) (more : Bytes)
    (hp : s.pending ++ more = encVar n) (hm : more ≠ []) (hlen : s.pending.length < 10) : s.varSlow = .eos := by
  rw [varSlow_eq]
  by_cases hpe : s.pending = []
  · rw [ensure_cut s hpe]
  · obtain ⟨s1, he, hp1, _, hinv1, hc1⟩ := ensure_ok s hc hinv hpe
    have hw : s1.win.length ≤ s.pending.length := hp1 ▸ s1.win_length_le_pending
    rw [he]
    dsimp only
    rw [if_neg (by omega)]
    have := varLoop_zero s1 (s1.pending.length + 1) (by omega) hinv1 (by omega)
    rwa [show decVar s1.pending = none by rw [hp1]; exact decVar_proper_prefix n _ more hp hm] at this

/-- `readVar32` (`k = 5`) and `readVar64` (`k = 10`): the fast path is taken when the window holds `k` bytes, as many as the
    widest value takes. -/
theorem readVar_ok (s : CIS) (k : Nat) (hk : k ≤ 10) (hc : 0 < s.cap) (hinv : s.Inv) (n : Nat) (rest : Bytes)
    (hn : (encVar n).length ≤ k) (hp : s.pending = encVar n ++ rest) :
    Refines s.cap (if s.win.length < k then s.varSlow else s.varFast) (some (n, rest)) := by
  split
  · exact varSlow_ok s hc hinv n rest (by omega) hp
  · exact varFast_ok s hinv n rest hp (by omega)

theorem readVar_cut (s : CIS) (k : Nat) (hk : k ≤ 10) (hc : 0 < s.cap) (hinv : s.Inv) (n : Nat) (more : Bytes)
    (hn : (encVar n).length ≤ k) (hp : s.pending ++ more = encVar n) (hm : more ≠ []) :
    (if s.win.length < k then s.varSlow else s.varFast) = .eos := by
  have hlen := length_lt_of_append_ne_nil hp hm
  have hw := s.win_length_le_pending
  rw [if_pos (by omega)]
  exact varSlow_cut s hc hinv n more hp hm (by omega)

/-- The chunk-by-chunk loop of `ReadBytes` takes the next `n` pending bytes if there are as many, and otherwise runs into
    the end of the stream. -/
theorem bytesLoop_take : ∀ (fuel : Nat) (s : CIS) (n : Nat) (acc : Bytes), 0 < s.cap → s.Inv → n < fuel →
    Refines s.cap (bytesLoop fuel s n acc)
      (if n ≤ s.pending.length then some (acc ++ s.pending.take n, s.pending.drop n) else none) := by
  intro fuel
  induction fuel with
  | zero => intro s n acc _ _ h; omega
  | succ fuel ih =>
    intro s n acc hc hinv hf
    unfold bytesLoop
    by_cases hn : n = 0
    · subst hn
      simpa using ⟨s, rfl, rfl, hinv, rfl⟩
    · simp only [hn, if_false]
      by_cases hpe : s.pending = []
      · rw [ensure_cut s hpe, hpe, if_neg (by simpa using hn)]
        rfl
      · obtain ⟨s1, he, hp1, hw1, hinv1, hc1⟩ := ensure_ok s hc hinv hpe
        rw [he, ← hp1, ← hc1]
        dsimp only
        -- one chunk: `k` bytes, at least one, all of them in the window
        have hk : 0 < min n s1.win.length ∧ min n s1.win.length ≤ n ∧ min n s1.win.length ≤ s1.win.length :=
          ⟨by have := List.length_pos_iff.mpr hw1; omega, Nat.min_le_left .., Nat.min_le_right ..⟩
        generalize min n s1.win.length = k at hk ⊢
        have hwp := s1.win_length_le_pending
        obtain ⟨h1, h2, h3⟩ := take_win s1 hinv1 k _ _ (List.take_append_drop k _).symm
          (by rw [List.length_take]; omega) hk.2.2
        have h := ih { s1 with win := s1.win.drop k } (n - k) (acc ++ s1.win.take k) (by simpa [hc1] using hc) h3 (by omega)
        have hiff : n - k ≤ s1.pending.length - k ↔ n ≤ s1.pending.length := by omega
        -- `acc ++ take k ++ take (n - k) (drop k ·)` is `acc ++ take n ·`, `drop (n - k) (drop k ·)` is `drop n ·`
        rw [h2, h1, List.length_drop, List.append_assoc, ← List.take_add, List.drop_drop, Nat.add_sub_cancel' hk.2.1] at h
        simp only [hiff] at h
        rw [h1]
        exact h

theorem readBytes_ok (s : CIS) (hc : 0 < s.cap) (hinv : s.Inv) (bs rest : Bytes)
    (hp : s.pending = bs ++ rest) : Refines s.cap (s.readBytes bs.length) (some (bs, rest)) := by
  simpa [hp, readBytes] using bytesLoop_take (bs.length + 1) s bs.length [] hc hinv (by omega)

theorem readBytes_cut (s : CIS) (hc : 0 < s.cap) (hinv : s.Inv) (n : Nat) (h : s.pending.length < n) :
    s.readBytes n = .eos := by
  have := bytesLoop_take (n + 1) s n [] hc hinv (by omega)
  rwa [if_neg (Nat.not_le.mpr h)] at this

theorem verifyFinished_ok (s : CIS) (hc : 0 < s.cap) (hp : s.pending = []) : ∃ s', s.verifyFinished = .ok () s' := by
  obtain ⟨hw, hs⟩ := List.append_eq_nil_iff.mp hp
  unfold verifyFinished fill
  cases h : s.atEof <;> simp [hw, hs, hc]

theorem verifyFinished_leftover (s : CIS) (hc : 0 < s.cap) (hinv : s.Inv) (hp : s.pending ≠ []) :
    s.verifyFinished = .notFinished := by
  unfold verifyFinished
  cases hw : s.win with
  | cons _ _ => cases s.atEof <;> rfl
  | nil =>
    obtain ⟨s1, he, _, hw1, _⟩ := fill_some s hc hinv hw hp
    have : s.atEof = false := by cases h : s.atEof <;> simp [fill, h] at he ⊢
    simp [this, he, hw1]

end CIS
end Yardl
