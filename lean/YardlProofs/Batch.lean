import YardlModel.Batch

/-! Whatever mixture of single-item and batched reads (any capacities) a client issues, and however
    the writer partitioned the stream into blocks, the reader delivers the written items in order,
    each exactly once, and reports the end only when nothing is left (`runOps_prefix`), because one batch read
    delivers the next `cap` items whatever the blocks are (`readBatch_take`). -/

namespace Yardl
namespace BS

/-- `if (current_block_remaining == 0) ReadInteger(stream, current_block_remaining)`, the step in front of every read:
    afterwards the count of the current block is known, and it is 0 only at the end of the stream. -/
theorem counted (s : BS) (h : s.Wf) :
    (if s.cbr = 0 then s.readCount else s).Wf ∧ (if s.cbr = 0 then s.readCount else s).items = s.items ∧
    ((if s.cbr = 0 then s.readCount else s).cbr = 0 → s.items = []) := by
  obtain ⟨h1, h2, h3⟩ := h
  by_cases hc : s.cbr = 0
  · rw [if_pos hc]
    unfold readCount
    cases hs : s.sizes with
    | nil =>
      have : s.items.length = 0 := by simpa [hs, partSum', hc] using h1.symm
      exact ⟨⟨by simpa [partSum'] using this.symm, by simp, fun _ => ⟨rfl, rfl⟩⟩, rfl, fun _ => List.eq_nil_of_length_eq_zero this⟩
    | cons n r =>
      have hn := h2 n (by simp [hs])
      refine ⟨⟨by simpa [hs, partSum', hc] using h1, fun m hm => h2 m (by simp [hs, hm]), fun he => ?_⟩, rfl, fun h0 => ?_⟩
      · simp [(h3 he).2] at hs
      · exact absurd h0 (by simpa using Nat.ne_of_gt hn)
  · rw [if_neg hc]
    exact ⟨⟨h1, h2, h3⟩, rfl, fun h0 => absurd h0 hc⟩

theorem consume_wf (s : BS) (k : Nat) (h : s.Wf) (hk : k ≤ s.cbr) : (s.consume k).Wf := by
  obtain ⟨h1, h2, h3⟩ := h
  refine ⟨?_, h2, fun he => ?_⟩
  · show s.cbr - k + partSum' s.sizes = (s.items.drop k).length
    rw [List.length_drop]; omega
  · have := h3 he
    exact ⟨by show s.cbr - k = 0; omega, this.2⟩

theorem readBlock_spec (s : BS) (h : s.Wf) :
    (s.readBlock).1.toList ++ (s.readBlock).2.items = s.items ∧ (s.readBlock).2.Wf := by
  obtain ⟨hwf, hi, _⟩ := counted s h
  unfold readBlock
  dsimp only
  generalize (if s.cbr = 0 then s.readCount else s) = s1 at *
  by_cases hc : s1.cbr = 0
  · simpa [hc, hi] using hwf
  · rw [if_neg hc]
    cases hit : s1.items with
    | nil => simpa [hit, ← hi] using hwf
    | cons v r =>
      -- the state after is `s1.consume 1`
      exact ⟨by simp [← hi, hit], by simpa [consume, hit] using consume_wf s1 1 hwf (by omega)⟩

/-- The loop of `ReadBlocksIntoVector`, entered with the count of the current block known, delivers the next `remCap`
    items, or all that are left if they are fewer, whatever the blocks are. -/
theorem batchLoop_take : ∀ (fuel : Nat) (s : BS) (remCap : Nat) (acc : List Val),
    s.Wf → (s.cbr = 0 → s.items = []) → remCap ≤ fuel →
    (batchLoop fuel s remCap acc).1 = acc ++ s.items.take remCap ∧
    (batchLoop fuel s remCap acc).2.items = s.items.drop remCap ∧ (batchLoop fuel s remCap acc).2.Wf := by
  intro fuel
  induction fuel with
  | zero =>
    intro s remCap acc hwf _ hf
    have : remCap = 0 := by omega
    subst this
    simpa [batchLoop] using hwf
  | succ fuel ih =>
    intro s remCap acc hwf h0 hf
    unfold batchLoop
    by_cases hc : s.cbr = 0
    · simpa [hc, h0 hc] using hwf
    · rw [if_neg hc]
      dsimp only
      obtain ⟨hwf2, hi2, h02⟩ := counted _ (consume_wf s (min s.cbr remCap) hwf (Nat.min_le_left ..))
      generalize (if (s.consume (min s.cbr remCap)).cbr = 0 then (s.consume (min s.cbr remCap)).readCount
        else s.consume (min s.cbr remCap)) = s2 at *
      replace hi2 : s2.items = s.items.drop (min s.cbr remCap) := hi2
      by_cases hr : remCap - min s.cbr remCap = 0
      · have hk : min s.cbr remCap = remCap := by omega
        rw [if_pos hr, hk]
        rw [hk] at hi2
        exact ⟨rfl, hi2, hwf2⟩
      · rw [if_neg hr]
        obtain ⟨e1, e2, e3⟩ := ih s2 (remCap - min s.cbr remCap) (acc ++ s.items.take (min s.cbr remCap)) hwf2
          (fun h => by rw [hi2]; exact h02 h) (by omega)
        rw [hi2] at e1 e2
        refine ⟨?_, ?_, e3⟩
        · rw [e1, List.append_assoc, ← List.take_add, Nat.add_sub_cancel' (Nat.min_le_right ..)]
        · rw [e2, List.drop_drop, Nat.add_sub_cancel' (Nat.min_le_right ..)]

/-- **A batch read delivers the next `cap` items**, or all that are left. -/
theorem readBatch_take (s : BS) (cap : Nat) (hwf : s.Wf) :
    (s.readBatch cap).1 = s.items.take cap ∧ (s.readBatch cap).2.items = s.items.drop cap ∧ (s.readBatch cap).2.Wf := by
  obtain ⟨h1, h2, h3⟩ := counted s hwf
  obtain ⟨e1, e2, e3⟩ := batchLoop_take (cap + 1) _ cap [] h1 (fun h => by rw [h2]; exact h3 h) (by omega)
  unfold readBatch
  rw [e1, e2, h2]
  exact ⟨List.nil_append _, rfl, e3⟩

/-- every batch capacity is positive -/
def opsOk : List Op → Prop
  | [] => True
  | .single :: r => opsOk r
  | .batch cap :: r => 0 < cap ∧ opsOk r

/-- Delivered items followed by the items still in the stream are always exactly the items written. -/
theorem runOps_prefix : ∀ (ops : List Op) (s : BS) (acc : List Val), s.Wf →
    (runOps ops s acc).1 ++ (runOps ops s acc).2.items = acc ++ s.items ∧ (runOps ops s acc).2.Wf := by
  intro ops
  induction ops with
  | nil => intro s acc h; exact ⟨rfl, h⟩
  | cons op ops ih =>
    intro s acc hwf
    unfold runOps
    by_cases he : s.sawEnd = true
    · rw [if_pos he]; exact ⟨rfl, hwf⟩
    · rw [if_neg he]
      cases op with
      | single =>
        obtain ⟨h1, h2⟩ := readBlock_spec s hwf
        cases hr : s.readBlock with
        | mk o s' =>
          rw [hr] at h1 h2
          cases o with
          | none => have := ih s' acc h2; simpa [← h1] using this
          | some v => have := ih s' (acc ++ [v]) h2; simpa [← h1] using this
      | batch cap =>
        obtain ⟨h1, h2, h3⟩ := readBatch_take s cap hwf
        have := ih (s.readBatch cap).2 (acc ++ (s.readBatch cap).1) h3
        simpa [h1, h2, List.append_assoc] using this

theorem init_wf (part : List Nat) (items : List Val) (hp : partSum' part = items.length) (hpos : ∀ n ∈ part, 0 < n) :
    (init part items).Wf :=
  ⟨by simp [init, hp], by simpa [init] using hpos, by simp [init]⟩

theorem Wf.items_nil {s : BS} (h : s.Wf) (he : s.sawEnd = true) : s.items = [] :=
  List.eq_nil_of_length_eq_zero (by rw [← h.1, (h.2.2 he).1, (h.2.2 he).2]; rfl)

/-! What a batch read returns does not depend on what the destination vector held before (`batchLoopD` vs `batchLoop`). -/

/-- The loop writing into a destination that still holds old items computes what the loop appending to `dest.take off` does:
    what lies beyond the write offset is overwritten, or cut off at the end. -/
theorem batchLoopD_eq : ∀ (fuel : Nat) (s : BS) (remCap off : Nat) (dest : List Val),
    s.Wf → remCap ≤ fuel → off ≤ dest.length → dest.length ≤ off + remCap →
    batchLoopD fuel s remCap off dest = batchLoop fuel s remCap (dest.take off) := by
  intro fuel
  induction fuel with
  | zero =>
    intro s remCap off dest _ hf _ hlen
    rw [batchLoopD, batchLoop, List.take_of_length_le (by omega)]
  | succ fuel ih =>
    intro s remCap off dest hwf hf hoff hlen
    unfold batchLoopD batchLoop
    by_cases hc : s.cbr = 0
    · rw [if_pos hc, if_pos hc]
      split
      · rfl
      · rw [List.take_of_length_le (by omega)]
    · rw [if_neg hc, if_neg hc]
      dsimp only
      have hxs : (s.items.take (min s.cbr remCap)).length = min s.cbr remCap := by
        have := hwf.1; rw [List.length_take]; omega
      have hto : (dest.take off).length = off := by rw [List.length_take]; omega
      have hwf2 := (counted _ (consume_wf s (min s.cbr remCap) hwf (Nat.min_le_left ..))).1
      by_cases hr : remCap - min s.cbr remCap = 0
      -- `place dest off xs` cut at `off + k` is `dest.take off ++ xs`; when the capacity is used up nothing lies beyond
      · rw [if_pos hr, if_pos hr, place, hxs, List.drop_eq_nil_of_le (by omega), List.append_nil]
      · rw [if_neg hr, if_neg hr]
        rw [ih _ _ _ _ hwf2 (by omega) (by simp [place, hxs, hto]) (by simp [place, hxs, hto]; omega)]
        rw [place, List.append_assoc, ← List.append_assoc, List.take_left' (by simp [hxs, hto])]

end BS
end Yardl
