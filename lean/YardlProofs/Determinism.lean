import YardlModel.Determinism

/-! The order `less` of the diagnostic sinks is total on well-formed diagnostics; the output tree under
    `writeIfNeeded`: what a path holds after a run, and that a second run changes nothing. -/

namespace Yardl.Det

/-- line and column numbers are ≥ 1 when present, so reading an absent one as 0 loses nothing -/
theorem getD_inj {a b : Option Nat} (ha : a ≠ some 0) (hb : b ≠ some 0) (h : a.getD 0 = b.getD 0) : a = b := by
  cases a <;> cases b <;> simp_all

/-- one key of a lexicographic comparison: if neither side is less, the keys agree and the later keys decide -/
theorem lex_step {x y : Nat} {p q : Bool} (h1 : (if x ≠ y then decide (x < y) else p) = false)
    (h2 : (if y ≠ x then decide (y < x) else q) = false) : x = y ∧ p = false ∧ q = false := by
  by_cases h : x = y
  · subst h; simpa using And.intro h1 h2
  · have h' : y ≠ x := fun e => h e.symm
    simp [h, h'] at h1 h2; omega

/-- two well-formed diagnostics of which neither is `less` are the same: the part of totality that makes a sorted arrangement unique -/
theorem eq_of_not_less (a b : Diag) (ha : Wf a) (hb : Wf b) (h1 : less a b = false) (h2 : less b a = false) :
    a = b := by
  obtain ⟨af, al, ac, am⟩ := a
  obtain ⟨bf, bl, bc, bm⟩ := b
  simp only [less] at h1 h2
  obtain ⟨rfl, h1, h2⟩ := lex_step h1 h2
  obtain ⟨hl, h1, h2⟩ := lex_step h1 h2
  obtain ⟨hc, h1, h2⟩ := lex_step h1 h2
  have hm : am = bm := by simp at h1 h2; omega
  obtain rfl : al = bl := getD_inj ha.1 hb.1 hl
  obtain rfl : ac = bc := getD_inj ha.2 hb.2 hc
  rw [hm]

theorem get_set (fs : Fs) (p q : Nat) (c : List UInt8) : (fs.set p c).get q = if q = p then some c else fs.get q := by
  split
  · subst q; simp [Fs.set, Fs.get]
  · rename_i h
    have hpq : (p == q) = false := by simpa using fun e => h e.symm
    -- among the entries with path `q`, the filter that removes path `p` removes none
    have : (fun e : Nat × List UInt8 => decide ((e.1 != p) = true ∧ (e.1 == q) = true)) = fun e => e.1 == q := by
      funext e; by_cases he : e.1 = q <;> simp [he, h]
    simp only [Fs.set, Fs.get, List.find?_cons, hpq, List.find?_filter, this]

theorem get_writeIfNeeded (st : Fs × List Nat) (f : Nat × List UInt8) (q : Nat) :
    (writeIfNeeded st f).1.get q = if q = f.1 then some f.2 else st.1.get q := by
  unfold writeIfNeeded
  split
  · split
    · subst q; assumption
    · rfl
  · exact get_set _ _ _ _

theorem foldl_get_unchanged : ∀ (r : List (Nat × List UInt8)) (st : Fs × List Nat) (p : Nat), (∀ g ∈ r, g.1 ≠ p) →
    (r.foldl writeIfNeeded st).1.get p = st.1.get p
  | [], _, _, _ => rfl
  | g :: r, st, p, h => by
    rw [List.foldl_cons, foldl_get_unchanged r _ p (fun x hx => h x (List.mem_cons_of_mem _ hx)), get_writeIfNeeded,
      if_neg (fun e => h g (List.mem_cons_self ..) e.symm)]

theorem foldl_content : ∀ (files : List (Nat × List UInt8)) (st : Fs × List Nat), pathsDistinct files = true →
    ∀ f ∈ files, (files.foldl writeIfNeeded st).1.get f.1 = some f.2
  | [], _, _, f, hf => nomatch hf
  | g :: r, st, hd, f, hf => by
    simp only [pathsDistinct, Bool.and_eq_true, Bool.not_eq_true', List.any_eq_false, beq_iff_eq] at hd
    rw [List.foldl_cons]
    rcases List.mem_cons.mp hf with rfl | hr
    · rw [foldl_get_unchanged r _ f.1 hd.1, get_writeIfNeeded, if_pos rfl]
    · exact foldl_content r _ hd.2 f hr

theorem foldl_fixed : ∀ (files : List (Nat × List UInt8)) (st : Fs × List Nat), (∀ f ∈ files, st.1.get f.1 = some f.2) →
    files.foldl writeIfNeeded st = st
  | [], _, _ => rfl
  | g :: r, st, h => by
    rw [List.foldl_cons, writeIfNeeded, if_pos (h g (List.mem_cons_self ..))]
    exact foldl_fixed r st (fun f hf => h f (List.mem_cons_of_mem _ hf))

theorem touched_iff_different (fs : Fs) (f : Nat × List UInt8) :
    (writeIfNeeded (fs, []) f).2 = (if fs.get f.1 = some f.2 then [] else [f.1]) := by
  unfold writeIfNeeded
  split <;> simp_all

end Yardl.Det
