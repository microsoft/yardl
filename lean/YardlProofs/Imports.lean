import YardlModel.Imports

/-! What a successful load guarantees, for every import graph (any size, any shape). -/

namespace Yardl.Imports

/-- `dir'` is reachable from `dir` by following imports. -/
inductive Reach (w : World) : Nat → Nat → Prop
  | refl (d : Nat) : Reach w d d
  | step (d i e : Nat) (p : Pkg) : w d = some p → i ∈ p.imports → Reach w i e → Reach w d e

theorem Reach.trans' {w : World} {a b c : Nat} (h1 : Reach w a b) (h2 : Reach w b c) : Reach w a c := by
  induction h1 with
  | refl d => exact h2
  | step d i e p hp hi _ ih => exact Reach.step d i c p hp hi (ih h2)

/-- One directory per namespace. -/
def Fn (c : Coll) : Prop := ∀ ns d, (ns, d) ∈ c → lookupNs c ns = some d

/-- The package at `x.2` claims namespace `x.1` and all its imports have been collected. -/
def Closed (w : World) (c : Coll) (x : Nat × Nat) : Prop :=
  ∃ p, w x.2 = some p ∧ p.ns = x.1 ∧ ∀ i ∈ p.imports, ∃ q, w i = some q ∧ (q.ns, i) ∈ c

theorem Closed.mono {w : World} {c c' : Coll} {x : Nat × Nat} (h : Closed w c x) (hs : ∀ y ∈ c, y ∈ c') :
    Closed w c' x := by
  obtain ⟨p, h1, h2, h3⟩ := h
  exact ⟨p, h1, h2, fun i hi => by obtain ⟨q, hq, hm⟩ := h3 i hi; exact ⟨q, hq, hs _ hm⟩⟩

theorem lookupNs_none_not_mem : ∀ (c : Coll) (ns : Nat), lookupNs c ns = none → ∀ d, (ns, d) ∉ c
  | [], _, _, _ => List.not_mem_nil
  | (n, d0) :: r, ns, h, d => by
    simp only [lookupNs] at h
    split at h
    · cases h
    · rename_i hn
      simp only [List.mem_cons, Prod.mk.injEq, not_or]
      exact ⟨fun e => hn e.1.symm, lookupNs_none_not_mem r ns h d⟩

theorem lookupNs_some_mem : ∀ (c : Coll) (ns d : Nat), lookupNs c ns = some d → (ns, d) ∈ c
  | [], _, _, h => nomatch h
  | (n, d0) :: r, ns, d, h => by
    simp only [lookupNs] at h
    split at h
    · rename_i hn
      cases h
      simp [hn]
    · exact List.mem_cons_of_mem _ (lookupNs_some_mem r ns d h)

theorem Fn_cons (c : Coll) (ns dir : Nat) (hf : Fn c) (hn : lookupNs c ns = none) : Fn ((ns, dir) :: c) := by
  intro n d hm
  simp only [List.mem_cons, Prod.mk.injEq] at hm
  simp only [lookupNs]
  rcases hm with ⟨h1, h2⟩ | hm
  · simp [h1, h2]
  · by_cases h : ns = n
    · subst h; exact absurd hm (lookupNs_none_not_mem c ns hn d)
    · simp [h, hf n d hm]

/-- What resolving the directories `dirs` has done to the collection. -/
structure StepSpec (w : World) (dirs : List Nat) (coll coll' : Coll) : Prop where
  /-- nothing is lost -/
  mono : ∀ x ∈ coll, x ∈ coll'
  /-- each of `dirs` is collected, under its own namespace -/
  roots : ∀ i ∈ dirs, ∃ q, w i = some q ∧ (q.ns, i) ∈ coll'
  /-- every new entry has all its imports collected, and is reached from one of `dirs` -/
  new : ∀ x ∈ coll', x ∉ coll → Closed w coll' x ∧ ∃ i ∈ dirs, Reach w i x.2
  /-- one directory per namespace is kept -/
  fn : Fn coll → Fn coll'

theorem StepSpec.refl (w : World) (dirs : List Nat) (c : Coll) (h : ∀ i ∈ dirs, ∃ q, w i = some q ∧ (q.ns, i) ∈ c) :
    StepSpec w dirs c c :=
  ⟨fun _ h => h, h, fun _ hx hn => absurd hx hn, id⟩

theorem StepSpec.append {w : World} {a b : List Nat} {c c1 c' : Coll} (s : StepSpec w a c c1) (t : StepSpec w b c1 c') :
    StepSpec w (a ++ b) c c' where
  mono x hx := t.mono x (s.mono x hx)
  roots i hi := by
    rcases List.mem_append.1 hi with hi | hi
    · obtain ⟨q, hq, hm⟩ := s.roots i hi
      exact ⟨q, hq, t.mono _ hm⟩
    · exact t.roots i hi
  new x hx hn := by
    by_cases h1 : x ∈ c1
    · obtain ⟨cl, i, hi, rc⟩ := s.new x h1 hn
      exact ⟨cl.mono t.mono, i, List.mem_append_left _ hi, rc⟩
    · obtain ⟨cl, j, hj, rc⟩ := t.new x hx h1
      exact ⟨cl, j, List.mem_append_right _ hj, rc⟩
  fn h := t.fn (s.fn h)

theorem foldE_spec (w : World) (f : Nat → Coll → Except LoadErr Coll)
    (hf : ∀ i c c', f i c = .ok c' → StepSpec w [i] c c') :
    ∀ (is : List Nat) (c c' : Coll), foldE f is c = .ok c' → StepSpec w is c c'
  | [], c, c', h => by
    cases h
    exact .refl w [] c nofun
  | i :: is, c, c', h => by
    simp only [foldE] at h
    cases hfi : f i c with
    | error e => simp [hfi] at h
    | ok c1 =>
      simp only [hfi] at h
      exact (hf i c c1 hfi).append (foldE_spec w f hf is c1 c' h)

/-- the two ways `collect` succeeds: the namespace had been collected, from the same directory, and nothing changes; or it is
    new, is registered, and its imports resolve one level deeper -/
theorem collect_ok (w : World) (d : Nat) (chain : List Nat) (dir : Nat) (coll coll' : Coll)
    (h : collect w d chain dir coll = .ok coll') :
    ∃ p, w dir = some p ∧ (((p.ns, dir) ∈ coll ∧ coll' = coll) ∨ (lookupNs coll p.ns = none ∧ ∃ d', d = d' + 1 ∧
      foldE (collect w d' (p.ns :: chain)) p.imports ((p.ns, dir) :: coll) = .ok coll')) := by
  unfold collect at h
  cases hw : w dir with
  | none => simp [hw] at h
  | some p =>
    refine ⟨p, rfl, ?_⟩
    simp only [hw] at h
    by_cases hc : p.ns ∈ chain
    · simp [hc] at h
    · simp only [hc, if_false] at h
      cases hl : lookupNs coll p.ns with
      | some dir' =>
        simp only [hl] at h
        by_cases hd : dir' = dir
        · simp only [hd, if_true] at h
          cases h
          subst hd
          exact Or.inl ⟨lookupNs_some_mem coll p.ns dir' hl, rfl⟩
        · simp [hd] at h
      | none =>
        simp only [hl] at h
        cases d with
        | zero => simp at h
        | succ d' => exact Or.inr ⟨rfl, d', rfl, h⟩

theorem collect_spec (w : World) (d : Nat) : ∀ (chain : List Nat) (dir : Nat) (coll coll' : Coll),
    collect w d chain dir coll = .ok coll' → StepSpec w [dir] coll coll' := by
  induction d with
  | zero =>
    intro chain dir coll coll' h
    obtain ⟨p, hw, ⟨hm, rfl⟩ | ⟨_, _, hd, _⟩⟩ := collect_ok w 0 chain dir coll coll' h
    · exact .refl w [dir] _ (List.forall_mem_singleton.2 ⟨p, hw, hm⟩)
    · cases hd
  | succ d ih =>
    intro chain dir coll coll' h
    obtain ⟨p, hw, ⟨hm, rfl⟩ | ⟨hl, _, hd, hf⟩⟩ := collect_ok w (d + 1) chain dir coll coll' h
    · exact .refl w [dir] _ (List.forall_mem_singleton.2 ⟨p, hw, hm⟩)
    · cases hd
      have t := foldE_spec w _ (ih (p.ns :: chain)) p.imports ((p.ns, dir) :: coll) coll' hf
      refine ⟨fun x hx => t.mono x (List.mem_cons_of_mem _ hx), List.forall_mem_singleton.2 ⟨p, hw, t.mono _ List.mem_cons_self⟩,
        fun x hx hn => ?_, fun hfn => t.fn (Fn_cons coll p.ns dir hfn hl)⟩
      by_cases hx0 : x = (p.ns, dir)
      · subst hx0
        exact ⟨⟨p, hw, rfl, t.roots⟩, dir, List.mem_singleton_self _, Reach.refl dir⟩
      · obtain ⟨cl, i, hi, rc⟩ := t.new x hx (by simp [hx0, hn])
        exact ⟨cl, dir, List.mem_singleton_self _, Reach.step dir i x.2 p hw hi rc⟩

theorem load_ok (w : World) (limit root : Nat) (c : Coll) (h : load w limit root = .ok c) :
    (∃ p, w root = some p ∧ (p.ns, root) ∈ c) ∧
    (∀ x ∈ c, Closed w c x ∧ Reach w root x.2) ∧ Fn c := by
  have s := collect_spec w limit [] root [] c h
  refine ⟨s.roots root (List.mem_singleton_self _), fun x hx => ?_, s.fn (by intro ns d hm; simp at hm)⟩
  obtain ⟨cl, i, hi, rc⟩ := s.new x hx List.not_mem_nil
  exact ⟨cl, List.mem_singleton.1 hi ▸ rc⟩

theorem closed_reach (w : World) (c : Coll) (hall : ∀ x ∈ c, Closed w c x) (d e : Nat)
    (hr : Reach w d e) : (∃ p, w d = some p ∧ (p.ns, d) ∈ c) → ∃ q, w e = some q ∧ (q.ns, e) ∈ c := by
  induction hr with
  | refl d => exact id
  | step d i e p hp hi _ ih =>
    intro ⟨p0, hp0, hm⟩
    apply ih
    obtain ⟨p1, hp1, _, himp⟩ := hall _ hm
    simp only at hp1
    rw [hp] at hp1
    cases hp1
    exact himp i hi

theorem reachable_loaded (w : World) (limit root : Nat) (c : Coll) (h : load w limit root = .ok c)
    (dir : Nat) (hr : Reach w root dir) : ∃ p, w dir = some p ∧ (p.ns, dir) ∈ c := by
  obtain ⟨hroot, hall, _⟩ := load_ok w limit root c h
  exact closed_reach w c (fun x hx => (hall x hx).1) root dir hr hroot

theorem no_namespace_conflict (w : World) (limit root : Nat) (c : Coll) (h : load w limit root = .ok c)
    (d₁ d₂ : Nat) (p₁ p₂ : Pkg) (h₁ : Reach w root d₁) (h₂ : Reach w root d₂)
    (w₁ : w d₁ = some p₁) (w₂ : w d₂ = some p₂) (hns : p₁.ns = p₂.ns) : d₁ = d₂ := by
  obtain ⟨q₁, e₁, m₁⟩ := reachable_loaded w limit root c h d₁ h₁
  obtain ⟨q₂, e₂, m₂⟩ := reachable_loaded w limit root c h d₂ h₂
  rw [w₁] at e₁; rw [w₂] at e₂
  cases e₁; cases e₂
  have hfn := (load_ok w limit root c h).2.2
  have a := hfn _ _ m₁
  have b := hfn _ _ m₂
  rw [hns] at a
  rw [a] at b
  exact Option.some.inj b

end Yardl.Imports
