import YardlModel.Closure

/-! The visited-set traversal collects exactly what is reachable from the roots (`closure_exact`);
    what it collects therefore depends on the reference graph only through reachability. -/

namespace Yardl.Closure

theorem Reach.trans' {refs : Refs} {a b c : Nat} (h1 : Reach refs a b) (h2 : Reach refs b c) : Reach refs a c := by
  induction h1 with
  | refl _ => exact h2
  | step n m _ hm _ ih => exact Reach.step n m c hm (ih h2)

/-- Reachability carries over to another graph that has every edge of the first one that leaves a
    node satisfying an invariant `P` of the walk. -/
theorem Reach.transfer {r₁ r₂ : Refs} {P : Nat → Prop}
    (hstep : ∀ n m, P n → m ∈ r₁ n → m ∈ r₂ n ∧ P m) {a b : Nat} (ha : P a) (h : Reach r₁ a b) :
    Reach r₂ a b := by
  induction h with
  | refl _ => exact Reach.refl _
  | step n m k hm _ ih => exact Reach.step n m k (hstep n m ha hm).1 (ih (hstep n m ha hm).2)

/-- What a traversal started at the nodes `ns` adds to the visited set: `ns` themselves, and
    otherwise only nodes reachable from `ns`, each with all its references. -/
def Collects (refs : Refs) (ns vis vis' : List Nat) : Prop :=
  (∀ x ∈ vis, x ∈ vis') ∧ (∀ n ∈ ns, n ∈ vis') ∧
    (∀ x ∈ vis', x ∉ vis → (∀ m ∈ refs x, m ∈ vis') ∧ ∃ n ∈ ns, Reach refs n x)

/-- A fold of fallible steps: what relates the accumulators over no step (`nil`) and is composed
    from the steps' relations (`cons`) relates the fold's start and result. -/
theorem foldV_induct {f : Nat → List Nat → Option (List Nat)} {T : List Nat → List Nat → List Nat → Prop}
    (nil : ∀ a, T [] a a) (cons : ∀ {n ns a b c}, T [n] a b → T ns b c → T (n :: ns) a c)
    (hf : ∀ n a b, f n a = some b → T [n] a b) : ∀ ns a c, foldV f ns a = some c → T ns a c
  | [], a, _, h => by cases h; exact nil a
  | n :: ns, a, c, h => by
    simp only [foldV] at h
    split at h
    · cases h
    · next b hb => exact cons (hf n a b hb) (foldV_induct nil cons hf ns b c h)

theorem Collects.nil (refs : Refs) (vis : List Nat) : Collects refs [] vis vis :=
  ⟨fun _ h => h, nofun, fun _ hx hn => absurd hx hn⟩

theorem Collects.cons {refs : Refs} {n : Nat} {ns vis v1 vis' : List Nat} :
    Collects refs [n] vis v1 → Collects refs ns v1 vis' → Collects refs (n :: ns) vis vis' := by
  intro ⟨s1, s2, s3⟩ ⟨t1, t2, t3⟩
  refine ⟨fun x hx => t1 x (s1 x hx), ?_, ?_⟩
  · intro m hm
    rcases List.mem_cons.mp hm with rfl | hm
    · exact t1 _ (s2 _ (List.mem_singleton_self _))
    · exact t2 m hm
  · intro x hx hn
    by_cases h1 : x ∈ v1
    · obtain ⟨cl, k, hk, rc⟩ := s3 x h1 hn
      cases List.mem_singleton.mp hk
      exact ⟨fun m hm => t1 m (cl m hm), n, List.mem_cons_self, rc⟩
    · obtain ⟨cl, k, hk, rc⟩ := t3 x hx h1
      exact ⟨cl, k, List.mem_cons_of_mem _ hk, rc⟩

theorem visit_spec (refs : Refs) : ∀ (d n : Nat) (vis vis' : List Nat),
    visit refs d n vis = some vis' → Collects refs [n] vis vis'
  | 0, _, _, _, h => nomatch h
  | d + 1, n, vis, vis', h => by
    simp only [visit] at h
    split at h
    next hn =>
      cases h
      exact ⟨fun _ h => h, fun _ hm => List.mem_singleton.mp hm ▸ hn, fun x hx hnx => absurd hx hnx⟩
    next hn =>
      obtain ⟨t1, t2, t3⟩ := foldV_induct (Collects.nil refs) Collects.cons (visit_spec refs d) (refs n) (n :: vis) vis' h
      have hself : n ∈ vis' := t1 n List.mem_cons_self
      refine ⟨fun x hx => t1 x (List.mem_cons_of_mem _ hx), fun _ hm => List.mem_singleton.mp hm ▸ hself, ?_⟩
      intro x hx hnx
      by_cases hxn : x = n
      · subst hxn
        exact ⟨t2, x, List.mem_singleton_self _, Reach.refl x⟩
      · obtain ⟨cl, k, hk, rc⟩ := t3 x hx (by simp [hxn, hnx])
        exact ⟨cl, n, List.mem_singleton_self _, Reach.step n k x hk rc⟩

/-- The collected set is exactly the set of names reachable from the roots. -/
theorem closure_exact (refs : Refs) (fuel : Nat) (roots vis : List Nat) (h : closure refs fuel roots = some vis) :
    ∀ x, x ∈ vis ↔ ∃ r ∈ roots, Reach refs r x := by
  obtain ⟨_, t2, t3⟩ := foldV_induct (Collects.nil refs) Collects.cons (visit_spec refs fuel) roots [] vis h
  refine fun x => ⟨fun hx => (t3 x hx List.not_mem_nil).2, ?_⟩
  rintro ⟨r, hr, hreach⟩
  have hr' : r ∈ vis := t2 r hr
  clear hr
  induction hreach with
  | refl _ => exact hr'
  | step n m k hm _ ih => exact ih ((t3 n hr' List.not_mem_nil).1 m hm)

theorem closure_congr {r₁ r₂ : Refs} {f₁ f₂ : Nat} {roots₁ roots₂ v₁ v₂ : List Nat}
    (h₁ : closure r₁ f₁ roots₁ = some v₁) (h₂ : closure r₂ f₂ roots₂ = some v₂)
    (h : ∀ x, (∃ r ∈ roots₁, Reach r₁ r x) ↔ ∃ r ∈ roots₂, Reach r₂ r x) (x : Nat) : x ∈ v₁ ↔ x ∈ v₂ := by
  rw [closure_exact r₁ f₁ roots₁ v₁ h₁, closure_exact r₂ f₂ roots₂ v₂ h₂, h]

/-- Reachability only depends on the reference *sets*: listing fields/definitions in another order,
    or repeating a reference, does not change it. -/
theorem closure_order_independent (r₁ r₂ : Refs) (f₁ f₂ : Nat) (roots₁ roots₂ v₁ v₂ : List Nat)
    (h : ∀ n m, m ∈ r₁ n ↔ m ∈ r₂ n) (hr : ∀ x, x ∈ roots₁ ↔ x ∈ roots₂)
    (h₁ : closure r₁ f₁ roots₁ = some v₁) (h₂ : closure r₂ f₂ roots₂ = some v₂) : ∀ x, x ∈ v₁ ↔ x ∈ v₂ :=
  closure_congr h₁ h₂ fun _ =>
    ⟨fun ⟨r, hrm, hh⟩ => ⟨r, (hr r).mp hrm, hh.transfer (P := fun _ => True) (fun n m _ hm => ⟨(h n m).mp hm, trivial⟩) trivial⟩,
     fun ⟨r, hrm, hh⟩ => ⟨r, (hr r).mpr hrm, hh.transfer (P := fun _ => True) (fun n m _ hm => ⟨(h n m).mpr hm, trivial⟩) trivial⟩⟩

/-- Adding (or changing) a definition that is not reachable from the protocol does not change what
    is collected. -/
theorem closure_ignores_unreachable (r₁ r₂ : Refs) (f₁ f₂ : Nat) (roots v₁ v₂ : List Nat) (u : Nat)
    (hsame : ∀ n, n ≠ u → r₁ n = r₂ n) (hun : ∀ r ∈ roots, ¬ Reach r₁ r u)
    (h₁ : closure r₁ f₁ roots = some v₁) (h₂ : closure r₂ f₂ roots = some v₂) : ∀ x, x ∈ v₁ ↔ x ∈ v₂ := by
  -- the walk never stands on a node that reaches `u` in `r₁`, so it never sees where the graphs differ
  have hne : ∀ n, ¬ Reach r₁ n u → n ≠ u := fun n hn e => hn (e ▸ Reach.refl n)
  exact closure_congr h₁ h₂ fun _ =>
    ⟨fun ⟨r, hrm, hh⟩ => ⟨r, hrm, hh.transfer (P := fun n => ¬ Reach r₁ n u)
      (fun n m hn hm => ⟨hsame n (hne n hn) ▸ hm, fun hmu => hn (Reach.step n m u hm hmu)⟩) (hun r hrm)⟩,
     fun ⟨r, hrm, hh⟩ => ⟨r, hrm, hh.transfer (P := fun n => ¬ Reach r₁ n u)
      (fun n m hn hm => have hm1 : m ∈ r₁ n := hsame n (hne n hn) ▸ hm
        ⟨hm1, fun hmu => hn (Reach.step n m u hm1 hmu)⟩) (hun r hrm)⟩⟩

end Yardl.Closure
