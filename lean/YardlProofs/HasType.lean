import YardlModel.Wire

/-! What a value of a given type looks like: `HasType` read backwards, one lemma per type constructor. -/

namespace Yardl

theorem hasType_enum {b : Prim} {fl : Bool} {syms : List (String × Int)} {v : Val} (h : HasType (.enum b fl syms) v = true) :
    ∃ x, v = .int x ∧ primHasType b (.int x) = true := by
  unfold HasType at h
  split at h
  · exact ⟨_, rfl, h⟩
  · contradiction

theorem hasType_record {fs : Fields} {v : Val} (h : HasType (.record fs) v = true) :
    ∃ vs, v = .record vs ∧ HasFields fs vs = true := by
  unfold HasType at h
  split at h
  · exact ⟨_, rfl, h⟩
  · contradiction

theorem hasType_optional {t : Ty} {v : Val} (h : HasType (.optional t) v = true) :
    v = .none ∨ ∃ x, v = .some x ∧ HasType t x = true := by
  unfold HasType at h
  split at h
  · exact .inl rfl
  · exact .inr ⟨_, rfl, h⟩
  · contradiction

theorem hasType_union {hn : Bool} {cs : Fields} {v : Val} (h : HasType (.union hn cs) v = true) :
    (v = .none ∧ hn = true) ∨ ∃ i x, v = .case i x ∧ HasCase cs i x = true := by
  unfold HasType at h
  split at h
  · exact .inl ⟨rfl, h⟩
  · exact .inr ⟨_, _, rfl, h⟩
  · contradiction

theorem hasType_vector {t : Ty} {len : Option Nat} {v : Val} (h : HasType (.vector t len) v = true) :
    ∃ vs, v = .list vs ∧ (∀ n, len = some n → vs.length = n) ∧ allList (HasType t) vs = true := by
  unfold HasType at h
  split at h
  · simp only [Bool.and_eq_true] at h
    refine ⟨_, rfl, ?_, h.2⟩
    rintro n rfl
    simpa using h.1
  · contradiction

theorem hasType_array {t : Ty} {k : ArrKind} {v : Val} (h : HasType (.array t k) v = true) :
    ∃ shape vs, v = .arr shape vs ∧ (∀ n, k = .rank n → shape.length = n) ∧
      (∀ dims, k = .fixed dims → shape = dims) ∧ vs.length = prod shape ∧ allList (HasType t) vs = true := by
  unfold HasType at h
  split at h
  · simp only [Bool.and_eq_true] at h
    refine ⟨_, _, rfl, ?_, ?_, by simpa using h.1.2, h.2⟩
    · rintro n rfl
      simpa using h.1.1
    · rintro dims rfl
      simpa using h.1.1
  · contradiction

theorem hasType_map {kt vt : Ty} {v : Val} (h : HasType (.map kt vt) v = true) :
    ∃ kvs, v = .map kvs ∧ allKVs (HasType kt) (HasType vt) kvs = true := by
  unfold HasType at h
  split at h
  · exact ⟨_, rfl, h⟩
  · contradiction

/-- Explicit in the value: it is handed over as a function, for the keys of a map with string keys. -/
theorem hasType_string (v : Val) (h : HasType (.prim .string) v = true) : ∃ s, v = .str s := by
  simp only [HasType] at h
  unfold primHasType at h
  split at h <;> first | exact ⟨_, rfl⟩ | contradiction | exact absurd h Bool.false_ne_true

end Yardl
